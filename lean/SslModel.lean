import SslModel.Gen.BinOpMap
import SslModel.Gen.DocPrecedence
import SslModel.Gen.ExecErrors
import SslModel.Gen.Grammar
import SslModel.Gen.LockShape
import SslModel.Gen.PrattTable
import SslModel.Gen.RuleUse
import SslModel.Gen.ScalarOps
import SslModel.Gen.StdSig
import SslModel.Model.Check
import SslModel.Model.CheckF
import SslModel.Model.CheckS
import SslModel.Model.Conc
import SslModel.Model.F64
import SslModel.Model.Fold
import SslModel.Model.FoldIO
import SslModel.Model.Int64
import SslModel.Model.Peg
import SslModel.Model.Pratt
import SslModel.Model.Seq
import SslModel.Model.Sexp
import SslModel.Model.Spec
import SslModel.Model.SpecIO
import SslModel.Model.StdLib
import SslModel.Model.StdTypes
import SslModel.Model.Ty
import SslModel.Model.TyIO
import SslModel.Model.TyText
import SslModel.Model.Typing
import SslModel.Model.Val
import SslModel.Model.ValText
import SslModel.Lemmas.Check
import SslModel.Lemmas.EnvRel
import SslModel.Lemmas.FoldSim
import SslModel.Lemmas.Induction
import SslModel.Lemmas.Int64
import SslModel.Lemmas.Lists
import SslModel.Lemmas.Mono
import SslModel.Lemmas.NoCtl
import SslModel.Lemmas.SpecAttr
import SslModel.Lemmas.SpecEq
import SslModel.Lemmas.Ty
import SslModel.Lemmas.TyJoin
import SslModel.Lemmas.TyLex
import SslModel.Lemmas.TyOrder
import SslModel.Lemmas.TyQuery
import SslModel.Lemmas.TyTrans
import SslModel.Lemmas.Typing
import SslModel.Lemmas.TypingFull
import SslModel.Lemmas.ValInv
import SslModel.Thm.C01
import SslModel.Thm.C01Fold
import SslModel.Thm.C01Invariants
import SslModel.Thm.C01Level
import SslModel.Thm.C01Outcomes
import SslModel.Thm.C01OutcomesFn
import SslModel.Thm.C01StepExpr
import SslModel.Thm.C01Steps
import SslModel.Thm.C01StoreTyping
import SslModel.Thm.C01Structs
import SslModel.Thm.C01Unions
import SslModel.Thm.C01Values
import SslModel.Thm.C02
import SslModel.Thm.C02Eval
import SslModel.Thm.C03
import SslModel.Thm.C04
import SslModel.Thm.C04Fold
import SslModel.Thm.C04FoldPost
import SslModel.Thm.C05
import SslModel.Thm.C05Fuel
import SslModel.Thm.C06
import SslModel.Thm.C07
import SslModel.Thm.C07Seq
import SslModel.Thm.C08
import SslModel.Thm.C09
import SslModel.Thm.C10
import SslModel.Thm.C11
import SslModel.Thm.C11Chain
import SslModel.Thm.C11Iter
import SslModel.Thm.C11Pipe
import SslModel.Thm.C12
import SslModel.Thm.C12Loops
import SslModel.Thm.C13
import SslModel.Thm.C13Hist
import SslModel.Thm.C14
import SslModel.Thm.C14Gen
import SslModel.Thm.C15
import SslModel.Thm.C16
import SslModel.Thm.C17
import SslModel.Thm.C18
import SslModel.Thm.C19
import SslModel.Thm.C20
import SslModel.Thm.C20Values
