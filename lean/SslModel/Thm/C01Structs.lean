import SslModel.Thm.C01StoreTyping
/-!
# C01 / C02 (stages 5-6) — struct literals and field access

The value a struct literal builds (`frameFields` of the evaluated fields, last initialiser of a repeated name) against the
type the checker model gives it (`lastFields` of the field types): the two folds walk related lists in step, so the
value's fields have the type's fields, name by name; and a good value of a struct type has every field the type demands.
-/
namespace Ssl.CS
open Ssl Ssl.Ty Ssl.Val Ssl.Spec Ssl.Check Ssl.CheckF Ssl.CheckS Ssl.C01
variable {S : STy}

theorem rel_mono {S S' : STy} (h : Ext S S') : ∀ (a : List (String × Ty)) (b : List (String × Val)), Rel S a b → Rel S' a b :=
  fun a b hr => (rel_iff_bindRel a b).mpr
    (Pointwise.imp_of (fun _ _ _ _ hp => ⟨hp.1, vt_mono h hp.2⟩) ((rel_iff_bindRel a b).mp hr))

/-- one step of `lastFields` (on field types) and of `frameFields` (on field values): a name already present stays -/
def stepT (acc : List (String × Ty)) (p : String × Ty) : List (String × Ty) :=
  if acc.any (fun q => q.1 == p.1) then acc else acc ++ [p]
def stepV (acc : List (String × Val)) (p : String × Val) : List (String × Val) :=
  if acc.any (fun q => q.1 == p.1) then acc else acc ++ [p]

theorem lastFields_eq (fts : List (String × Ty)) : lastFields fts = fts.reverse.foldl stepT [] := rfl
theorem frameFields_eq (f : Frame) : frameFields f = f.foldl stepV [] := by
  unfold frameFields stepV
  congr 1

theorem rel_any (k : String) : ∀ (a : List (String × Ty)) (b : List (String × Val)), Rel S a b →
    a.any (fun q => q.1 == k) = b.any (fun q => q.1 == k)
  | [], [], _ => rfl
  | (n, t) :: a, (m, v) :: b, h => by
    simp only [Rel] at h
    obtain ⟨rfl, _, h3⟩ := h
    simp only [List.any_cons, rel_any k a b h3]

/-- the two folds walk related lists in step -/
theorem fold_rel : ∀ (ts : List (String × Ty)) (vs : List (String × Val)) (accT : List (String × Ty)) (accV : List (String × Val)),
    Rel S ts vs → Rel S accT accV → Rel S (ts.foldl stepT accT) (vs.foldl stepV accV)
  | [], [], accT, accV, _, ha => by simpa using ha
  | (n, t) :: ts, (m, v) :: vs, accT, accV, h, ha => by
    simp only [Rel] at h
    obtain ⟨rfl, hv, h3⟩ := h
    simp only [List.foldl]
    apply fold_rel ts vs _ _ h3
    simp only [stepT, stepV, rel_any n accT accV ha]
    split
    · exact ha
    · exact rel_append _ _ _ _ ha (by simp [Rel, hv])

theorem nodup_stepT (acc : List (String × Ty)) (p : String × Ty) (h : nodupKeys acc = true) : nodupKeys (stepT acc p) = true := by
  unfold stepT
  split
  · exact h
  · next hany =>
    -- appending a key that does not occur keeps the keys distinct
    simp only [List.any_eq_true, beq_iff_eq, not_exists, not_and] at hany
    rw [nodupKeys_iff] at h ⊢
    rw [List.map_append, List.nodup_append]
    refine ⟨h, List.pairwise_singleton _ _, fun a ha b hb => ?_⟩
    obtain ⟨q, hq, rfl⟩ := List.mem_map.mp ha
    cases List.mem_singleton.mp hb
    exact hany q hq

theorem nodup_foldT : ∀ (ts acc : List (String × Ty)), nodupKeys acc = true → nodupKeys (ts.foldl stepT acc) = true
  | [], acc, h => by simpa using h
  | p :: ts, acc, h => by
    simp only [List.foldl]
    exact nodup_foldT ts _ (nodup_stepT acc p h)

theorem rel_keys : ∀ (a : List (String × Ty)) (b : List (String × Val)), Rel S a b → (asTypeF b).map (·.1) = a.map (·.1)
  | [], [], _ => by rw [asTypeF]
  | (n, t) :: a, (m, v) :: b, h => by
    simp only [Rel] at h
    obtain ⟨rfl, _, h3⟩ := h
    rw [asTypeF, List.map_cons, List.map_cons, rel_keys a b h3]

theorem lookupF_asTypeF (k : String) : ∀ (fs : List (String × Val)), lookupF k (asTypeF fs) = (frameLookup k fs).map asType
  | [] => by rw [asTypeF]; rfl
  | (k', v) :: fs => by
    rw [asTypeF, lookupF, frameLookup, BEq.comm, lookupF_asTypeF k fs]
    split <;> rfl

theorem frameLookup_mem {k : String} {fs : List (String × Val)} {v : Val} (h : frameLookup k fs = some v) : (k, v) ∈ fs :=
  mem_of_lookup (look := frameLookup k) rfl (fun k' x fs => by rw [frameLookup, BEq.comm]) h

theorem rel_lookup {k : String} {t : Ty} : ∀ (a : List (String × Ty)) (b : List (String × Val)), Rel S a b →
    lookupF k a = some t → ∃ v, frameLookup k b = some v ∧ VT S t v
  | (n, t0) :: a, (m, v) :: b, h, hk => by
    simp only [Rel] at h
    obtain ⟨rfl, hv, h3⟩ := h
    rw [lookupF] at hk
    rw [frameLookup, BEq.comm]
    split at hk
    · next he => cases hk; exact ⟨v, if_pos he, hv⟩
    · next he => rw [if_neg he]; exact rel_lookup a b h3 hk
  | [], [], _, hk => by cases hk

theorem structMatches_rel (a : List (String × Ty)) (b : List (String × Val)) (h : Rel S a b) (hn : nodupKeys a = true) :
    structMatches (asTypeF b) a = true :=
  (structMatches_iff _ a).mpr fun p hp => by
    obtain ⟨v, hv, hvt⟩ := rel_lookup a b h (lookupF_of_mem hn hp)
    exact (fieldMatches_iff _ p.1 p.2).mpr ⟨v.asType, by rw [lookupF_asTypeF, hv]; rfl, hvt.1⟩

theorem rel_good (a : List (String × Ty)) (b : List (String × Val)) (h : Rel S a b) (p : String × Val) (hp : p ∈ b) :
    Good S p.2 :=
  let ⟨_, _, hq⟩ := ((rel_iff_bindRel a b).mp h).exists_of_mem_right p hp
  hq.2.2

/-- **the struct literal**: evaluated fields related to their types give a struct value of the literal's type -/
theorem struct_literal (fts : List (String × Ty)) (vs : List (String × Val)) (h : Rel S fts vs) :
    VT S (.struct (lastFields fts)) (.struct (frameFields vs.reverse)) := by
  have hr : Rel S (lastFields fts) (frameFields vs.reverse) := by
    rw [lastFields_eq, frameFields_eq]
    exact fold_rel _ _ [] [] (rel_reverse fts vs h) (by simp [Rel])
  have hn : nodupKeys (lastFields fts) = true := by
    rw [lastFields_eq]; exact nodup_foldT _ [] (by simp [nodupKeys])
  have hnv : nodupKeys (asTypeF (frameFields vs.reverse)) = true :=
    (nodupKeys_iff _).mpr (rel_keys _ _ hr ▸ (nodupKeys_iff _).mp hn)
  refine ⟨?_, Good.struct _ hnv (rel_good _ _ hr)⟩
  simp only [asType, sub_struct]
  exact structMatches_rel _ _ hr hn

/-- **field access**: a good struct value of a struct type has every field of the type, with a value of the field's type -/
theorem field_value {x : Val} {fts : List (String × Ty)} {k : String} {t : Ty} (hx : VT S (.struct fts) x)
    (hk : lookupF k fts = some t) : ∃ fs v, x = .struct fs ∧ frameLookup k fs = some v ∧ VT S t v := by
  obtain ⟨hs, hg⟩ := hx
  cases hg with
  | struct fs hn hgood =>
    simp only [asType, sub_struct] at hs
    -- the type demands the field, so the tag has it (`structMatches_iff`), below `t`; the tag has it where the value has it
    obtain ⟨t1, h1, ht1⟩ := (fieldMatches_iff _ k t).mp ((structMatches_iff _ fts).mp hs (k, t) (lookupF_mem hk))
    rw [lookupF_asTypeF] at h1
    cases hv : frameLookup k fs with
    | none => rw [hv] at h1; cases h1
    | some v =>
      rw [hv] at h1
      cases h1
      exact ⟨fs, v, rfl, hv, ht1, hgood (k, v) (frameLookup_mem hv)⟩
  | _ => unfold asType sub eqv at hs; cases hs

end Ssl.CS
