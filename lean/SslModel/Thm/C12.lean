import SslModel.Lemmas.SpecEq
import SslModel.Model.Check
import SslModel.Lemmas.TyTrans
import SslModel.Thm.C07
/-!
# C12 — control flow selects and exits exactly the documented construct

Theorems about the reference semantics `Spec`.  `break`, `continue` and `return` are the signals
`Sig.brk`, `Sig.cont`, `Sig.ret v` of the evaluation monad: every construct propagates them
(`bind_def`: an error result skips the continuation) except loops, which catch `brk` / `cont`, and
function calls, which catch `ret` — and nothing else does.
-/
namespace Ssl.C12
open Ssl Ssl.Spec

theorem bind_def {α β} (m : M α) (k : α → M β) (σ : St) :
    (m >>= k) σ = (match m σ with
      | (.ok a, σ') => k a σ'
      | (.error e, σ') => (.error e, σ')) :=
  bindM_def m k σ

def isEscape : Sig → Bool
  | .brk | .cont | .ret _ => true
  | _ => false

/-! ## `return` exits the innermost enclosing function: a call never lets a signal out -/

/-- whatever a function body does, the call yields a value, a runtime error, `wrong` or runs out of
    fuel — never `break`, `continue` or `return` -/
theorem call_contains_signals (f : Nat) (fv : Val) (args : List Val) (σ σ' : St) (s : Sig)
    (h : callFn f fv args σ = (.error s, σ')) : isEscape s = false := by
  obtain ⟨h1, h2, h3⟩ := callFn_error h
  cases s with
  | brk => exact absurd rfl h1
  | cont => exact absurd rfl h2
  | ret v => exact absurd rfl (h3 v)
  | _ => rfl

/-- `return e` raises the signal carrying the value of `e` -/
theorem return_raises (f : Nat) (env : Env) (e : Expr) (σ σ1 : St) (v : Val)
    (h : eval f env e σ = (.ok v, σ1)) :
    eval (f + 1) env (.ret (some e)) σ = (.error (.ret v), σ1) := by
  rw [eval_ret, bind_ok h]; rfl

/-- a call turns the `return` of its body into its result -/
theorem call_returns_value (f : Nat) (id : Nat) (ps : List (String × Ty)) (r : Ty) (s : Expr)
    (body : List Expr) (cap : Frame) (self : Option String) (args : List Val) (σ σ1 : St) (v : Val)
    (hn : ∀ name, s ≠ .native name)
    (h : evalSeq f (calleeEnv (.fn id ps r (s :: body) cap self) ps cap self args) (s :: body) σ = (.error (.ret v), σ1)) :
    callFn (f + 1) (.fn id ps r (s :: body) cap self) args σ = (.ok v, σ1) :=
  callFn_of_ret hn h

/-- falling off the end of a function body yields `()`, whatever the last statement's value was -/
theorem call_falls_off_end (f : Nat) (id : Nat) (ps : List (String × Ty)) (r : Ty) (s : Expr)
    (body : List Expr) (cap : Frame) (self : Option String) (args : List Val) (σ σ1 : St)
    (res : Val × Env) (hn : ∀ name, s ≠ .native name)
    (h : evalSeq f (calleeEnv (.fn id ps r (s :: body) cap self) ps cap self args) (s :: body) σ = (.ok res, σ1)) :
    callFn (f + 1) (.fn id ps r (s :: body) cap self) args σ = (.ok .unit, σ1) := by
  rw [callFn_closure f id ps r s body cap self args hn]
  exact tryCatchS_ok (bind_ok h)

/-! ## `break` / `continue` affect the innermost enclosing loop -/

theorem bodyOnce_break (f : Nat) (env : Env) (body : Expr) (σ σ1 : St)
    (h : eval f env body σ = (.error .brk, σ1)) :
    bodyOnce (f + 1) env body σ = (.ok false, σ1) := by
  rw [bodyOnce_succ, tryCatchS_error (bind_error h)]; rfl

theorem bodyOnce_continue (f : Nat) (env : Env) (body : Expr) (σ σ1 : St)
    (h : eval f env body σ = (.error .cont, σ1)) :
    bodyOnce (f + 1) env body σ = (.ok true, σ1) := by
  rw [bodyOnce_succ, tryCatchS_error (bind_error h)]; rfl

theorem bodyOnce_normal (f : Nat) (env : Env) (body : Expr) (σ σ1 : St) (v : Val)
    (h : eval f env body σ = (.ok v, σ1)) :
    bodyOnce (f + 1) env body σ = (.ok true, σ1) := by
  rw [bodyOnce_succ]; exact tryCatchS_ok (bind_ok h)

/-- every signal but `break` and `continue` - `return`, an error - passes through a loop body untouched -/
theorem bodyOnce_passes (f : Nat) (env : Env) (body : Expr) (σ σ1 : St) (s : Sig)
    (h : eval f env body σ = (.error s, σ1)) (hb : s ≠ .brk) (hc : s ≠ .cont) :
    bodyOnce (f + 1) env body σ = (.error s, σ1) := by
  rw [bodyOnce_succ, tryCatchS_error (bind_error h)]
  cases s <;> first | rfl | exact absurd rfl hb | exact absurd rfl hc

theorem bodyOnce_propagates_return (f : Nat) (env : Env) (body : Expr) (σ σ1 : St) (v : Val)
    (h : eval f env body σ = (.error (.ret v), σ1)) :
    bodyOnce (f + 1) env body σ = (.error (.ret v), σ1) :=
  bodyOnce_passes f env body σ σ1 _ h nofun nofun

/-- what a loop can answer: `()`, or a signal that is neither `break` nor `continue` (its body's runs caught those) -/
theorem loopGo_answers : ∀ (f : Nat) (env : Env) (body : Expr) (σ σ' : St) (r : Except Sig Val),
    loopGo f env body σ = (r, σ') → r = .ok .unit ∨ ∃ s, r = .error s ∧ s ≠ .brk ∧ s ≠ .cont
  | 0, _, _, _, _, _, h => by cases h; exact .inr ⟨_, rfl, nofun, nofun⟩
  | f + 1, env, body, σ, σ', r, h => by
    rw [loopGo_succ] at h
    cases hb : bodyOnce f env body σ with
    | mk rb σ1 =>
      cases rb with
      | error e => rw [bind_error hb] at h; cases h; exact .inr ⟨e, rfl, bodyOnce_error hb⟩
      | ok go =>
        rw [bind_ok hb] at h
        cases go with
        | false => cases h; exact .inl rfl
        | true => exact loopGo_answers f env body σ1 σ' r h

theorem loop_catches_break_continue (f : Nat) : ∀ (env : Env) (body : Expr) (σ σ' : St) (s : Sig),
    loopGo f env body σ = (.error s, σ') → s ≠ .brk ∧ s ≠ .cont := by
  intro env body σ σ' s h
  obtain h | ⟨_, h, hs⟩ := loopGo_answers f env body σ σ' _ h
  · cases h
  · cases h; exact hs

/-- loops evaluate to `()` -/
theorem loop_value_void (f : Nat) : ∀ (env : Env) (body : Expr) (σ σ' : St) (v : Val),
    loopGo f env body σ = (.ok v, σ') → v = .unit := by
  intro env body σ σ' v h
  obtain h | ⟨_, h, _⟩ := loopGo_answers f env body σ σ' _ h
  · cases h; rfl
  · cases h

/-- `break` in the body ends the loop with `()`, in the store the body left -/
theorem loop_break_ends (f : Nat) (env : Env) (body : Expr) (σ σ1 : St)
    (h : eval f env body σ = (.error .brk, σ1)) :
    loopGo (f + 2) env body σ = (.ok .unit, σ1) := by
  rw [loopGo_succ, bind_ok (bodyOnce_break f env body σ σ1 h)]; rfl

/-! ## `if`, `if x: T = e`, `while x: T = e`, `match` select by the documented test -/

theorem if_selects (f : Nat) (env : Env) (c t : Expr) (e : Option Expr) (σ σ1 : St) (b : Bool)
    (h : eval f env c σ = (.ok (.bool b), σ1)) :
    eval (f + 1) env (.ifElse c t e) σ =
      (if b then eval f env t σ1 else match e with
        | some e => eval f env e σ1
        | none => (.ok .unit, σ1)) := by
  rw [eval_ifElse, bind_ok h]; cases b <;> cases e <;> rfl

/-- `if x: T = e` runs its body exactly when the *run-time* type of the value matches `T` -/
theorem ifset_selects (f : Nat) (env : Env) (x : String) (ty : Ty) (e body : Expr) (els : Option Expr)
    (σ σ1 : St) (v : Val) (h : eval f env e σ = (.ok v, σ1)) :
    eval (f + 1) env (.ifSet x ty e body els) σ =
      (if Ty.sub v.asType ty then eval f ([(x, v)] :: env) body σ1
       else match els with
        | some e => eval f env e σ1
        | none => (.ok .unit, σ1)) := by
  rw [eval_ifSet, bind_ok h]
  split <;> (try rfl)
  cases els <;> rfl

theorem whileset_selects (f : Nat) (env : Env) (x : String) (ty : Ty) (e body : Expr)
    (σ σ1 : St) (v : Val) (h : eval f env e σ = (.ok v, σ1)) (hs : Ty.sub v.asType ty = false) :
    whileSetGo (f + 1) env x ty e body σ = (.ok .unit, σ1) := by
  rw [whileSetGo_succ, bind_ok h]; simp only [hs]; rfl

/-- `match` runs the first arm, top to bottom, that covers the value -/
theorem match_type_arm (f : Nat) (env : Env) (v : Val) (x : String) (t : Ty) (body : Expr)
    (rest : List Arm) :
    evalArms (f + 1) env v (.ty x t body :: rest) =
      (if Ty.sub v.asType t then eval f ([(x, v)] :: env) body else evalArms f env v rest) :=
  C06.type_arm_binds_only_in_body f env v x t body rest

theorem match_other_arm (f : Nat) (env : Env) (v : Val) (body : Expr) (rest : List Arm) :
    evalArms (f + 1) env v (.other body :: rest) = eval f env body := by
  simp only [evalArms]

theorem match_value_arm (f : Nat) (env : Env) (v : Val) (cands : List Expr) (body : Expr)
    (rest : List Arm) :
    evalArms (f + 1) env v (.val cands body :: rest) = (do
      let hit ← candGo f env v cands
      if hit then eval f env body else evalArms f env v rest) :=
  C07.value_arm_then_next_arm f env v cands body rest

/-- a `match` none of whose arms covers the value is `wrong` (the checker must exclude it: C01/C02) -/
theorem match_uncovered_is_wrong (f : Nat) (env : Env) (v : Val) :
    evalArms (f + 1) env v [] = wrong "no match arm covers the value" := by
  simp only [evalArms]

/-! ## blocks evaluate to their last statement -/

theorem seq_empty (f : Nat) (env : Env) : evalSeq (f + 1) env [] = pure (.unit, env) :=
  evalSeq_nil f env

theorem seq_last (f : Nat) (env : Env) (s : Expr) : evalSeq (f + 1) env [s] = evalStmt f env s :=
  evalSeq_last f env s

theorem seq_cons (f : Nat) (env : Env) (s s2 : Expr) (rest : List Expr) :
    evalSeq (f + 1) env (s :: s2 :: rest) = (do
      let (_, env') ← evalStmt f env s
      evalSeq f env' (s2 :: rest)) :=
  evalSeq_cons f env s s2 rest

section coverage
open Ssl.Ty

open Ssl.Check

/-- if the arms cover `T`, then for every type `R` below `T` that is neither a union nor `!` (as run-time types are)
    some arm's run-time test succeeds: `matches` is transitive -/
theorem coverage_of_sub (arms : List ArmKind) (R T : Ty) (hR1 : isMulti R = false) (hR2 : isNever R = false)
    (hsub : sub R T = true) (hc : covering arms T = true) : ∃ arm ∈ arms, armCovers arm R = true := by
  -- a non-union type `M` with `R ≤ M` that some arm covers
  have key : ∀ M : Ty, sub R M = true → arms.any (armCovers · M) = true →
      ∃ arm ∈ arms, armCovers arm R = true := by
    intro M hRM hany
    rw [List.any_eq_true] at hany
    obtain ⟨arm, harm, hcov⟩ := hany
    cases arm with
    | value => simp [armCovers] at hcov
    | other => exact ⟨.other, harm, rfl⟩
    | ty a =>
      simp only [armCovers] at hcov
      exact ⟨.ty a, harm, by simp only [armCovers]; exact sub_trans R M a hRM hcov⟩
  -- `covering` goes through a union member by member and asks the arms directly about every other type
  cases T with
  | multi ms =>
    rw [sub_multi_right R ms hR1 hR2, anyMatch_eq, List.any_eq_true] at hsub
    obtain ⟨m, hmem, hRm⟩ := hsub
    exact key m hRm (List.all_eq_true.mp hc m hmem)
  | _ => exact key _ hsub hc

-- the statement keeps three hypotheses of well-formedness that `coverage_of_sub` does not need
set_option linter.unusedVariables false in
/-- **an accepted match always has an arm for the value it meets**: if the arms cover the static type `T`
    of the scrutinee, then for every run-time type `R` below `T` (run-time types are never unions or `!`)
    some arm's run-time test succeeds -/
theorem coverage_sound (arms : List ArmKind) (R T : Ty) (wR : wf R = true) (wT : wf T = true)
    (warms : ∀ a, ArmKind.ty a ∈ arms → wf a = true)
    (hR1 : isMulti R = false) (hR2 : isNever R = false)
    (hsub : sub R T = true) (hc : covering arms T = true) :
    ∃ arm ∈ arms, armCovers arm R = true :=
  coverage_of_sub arms R T hR1 hR2 hsub hc

/-- the check is not vacuous and not trivially true: `x: int => ..` alone does not cover `int|string` -/
example : covering [.ty .int] (.multi [.int, .str]) = false ∧
    covering [.ty .int, .ty (.multi [.str, .void])] (.multi [.int, .str]) = true ∧
    covering [.value, .other] (.multi [.int, .str]) = true := by
  refine ⟨?_, ?_, ?_⟩ <;> simp [covering, armCovers, sub, anyMatch, eqv]

end coverage

end Ssl.C12
