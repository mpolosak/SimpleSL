import SslModel.Lemmas.TyOrder
/-!
# C05 — outcomes are independent of hash order

In the model a union is a *list* of members and a struct a *list* of fields; the list order stands
for the iteration order of one particular `HashSet` / `HashMap` instance.  Independence of hash
order is invariance under permutation of those lists: of `==`, of `matches`, of what the `Hash`
implementations feed to the hasher, of the all-based queries, and - up to types that match each
other in both directions, from `concat` being a least upper bound - of the queries that fold the
members' answers with `concat`.  `params` / `flatten_tuple` (which fold with `conjoin` / pointwise
`concat`) and program-level determinism are exercised by repetition (K parses + runs per program, in
one process and across processes): tools/props/c05.py.
-/
namespace Ssl.C05
open Ssl Ssl.Ty

/-- a union equals any reordering of itself -/
theorem eqv_perm_union (ms ms' : List Ty) (hp : ms.Perm ms') (hw : wf (.multi ms) = true) :
    eqv (.multi ms) (.multi ms') = true := by
  exact (eqv_multi_iff ms ms').mpr
    ⟨hp.length_eq, fun x hx => ⟨x, hp.mem_iff.mp hx, eqv_refl x (member_plain_wf hw hx).2⟩⟩

/-- a struct type equals any reordering of its fields -/
theorem eqv_perm_struct (fs fs' : List (String × Ty)) (hp : fs.Perm fs') (hw : wf (.struct fs) = true)
    (hn' : nodupKeys fs' = true) : eqv (.struct fs) (.struct fs') = true := by
  simp only [wf, Bool.and_eq_true] at hw
  exact (eqv_struct_iff fs fs').mpr ⟨hp.length_eq, fun p hp' =>
    ⟨p.2, lookupF_of_mem hn' (hp.mem_iff.mp hp'), eqv_refl p.2 (wfF_mem hw.1 hp')⟩⟩

theorem matches_union_left_order (ms ms' : List Ty) (c : Ty) (hp : ms.Perm ms') :
    sub (.multi ms) c = sub (.multi ms') c := by
  rw [sub_multi_left, sub_multi_left, allMatch_eq, allMatch_eq, hp.all_eq]

theorem matches_union_right_order (a : Ty) (ms ms' : List Ty) (hp : ms.Perm ms')
    (h1 : isMulti a = false) (h2 : isNever a = false) :
    sub a (.multi ms) = sub a (.multi ms') := by
  rw [sub_multi_right a ms h1 h2, sub_multi_right a ms' h1 h2, anyMatch_eq, anyMatch_eq, hp.any_eq]

/-- `impl Hash for MultiType` hashes the number of members: equal unions have equal sizes -/
theorem equal_unions_hash_equally (ms ms' : List Ty) (h : eqv (.multi ms) (.multi ms') = true) :
    ms.length = ms'.length :=
  ((eqv_multi_iff ms ms').mp h).1

/-- `impl Hash for StructType` (after the repair) hashes the sorted keys; equal struct types have
    the same number of fields, and every key of one is a key of the other -/
theorem equal_structs_same_size (fs fs' : List (String × Ty)) (h : eqv (.struct fs) (.struct fs') = true) :
    fs.length = fs'.length :=
  ((eqv_struct_iff fs fs').mp h).1

theorem equal_structs_same_keys (fs fs' : List (String × Ty)) (h : eqv (.struct fs) (.struct fs') = true) :
    ∀ p ∈ fs, ∃ q ∈ fs', q.1 = p.1 := by
  intro p hp
  obtain ⟨t', hl, _⟩ := ((eqv_struct_iff fs fs').mp h).2 p hp
  exact ⟨(p.1, t'), lookupF_mem hl, rfl⟩

theorem is_function_order (ms ms' : List Ty) (hp : ms.Perm ms') :
    isFunction (.multi ms) = isFunction (.multi ms') := by
  simp only [isFunction, hp.all_eq]

theorem is_tuple_order (ms ms' : List Ty) (hp : ms.Perm ms') :
    isTuple (.multi ms) = isTuple (.multi ms') := by
  simp only [isTuple, hp.all_eq]

theorem is_mut_order (ms ms' : List Ty) (hp : ms.Perm ms') :
    isMut (.multi ms) = isMut (.multi ms') := by
  simp only [isMut, hp.all_eq]

theorem has_field_order (k : String) (ms ms' : List Ty) (hp : ms.Perm ms') :
    hasField k (.multi ms) = hasField k (.multi ms') := by
  simp only [hasField, hp.all_eq]

/-- the conclusion shared by the five theorems below -/
def SameAnswer (q : Ty → Option Ty) (a b : Ty) : Prop :=
  (q a = none ∧ q b = none) ∨ ∃ r r', q a = some r ∧ q b = some r' ∧ sub r r' = true ∧ sub r' r = true

theorem index_result_order_independent (ms ms' : List Ty) (hp : ms.Perm ms') (hw : wf (.multi ms) = true) :
    SameAnswer indexResult (.multi ms) (.multi ms') :=
  query_order_independent _ wf_of_index ms ms' hp hw

theorem element_type_order_independent (ms ms' : List Ty) (hp : ms.Perm ms') (hw : wf (.multi ms) = true) :
    SameAnswer elementType (.multi ms) (.multi ms') :=
  query_order_independent _ wf_of_elem ms ms' hp hw

theorem return_type_order_independent (ms ms' : List Ty) (hp : ms.Perm ms') (hw : wf (.multi ms) = true) :
    SameAnswer returnType (.multi ms) (.multi ms') :=
  query_order_independent _ wf_of_ret ms ms' hp hw

theorem mut_element_type_order_independent (ms ms' : List Ty) (hp : ms.Perm ms') (hw : wf (.multi ms) = true) :
    SameAnswer mutElementType (.multi ms) (.multi ms') :=
  query_order_independent _ wf_of_cell ms ms' hp hw

theorem field_type_order_independent (k : String) (ms ms' : List Ty) (hp : ms.Perm ms') (hw : wf (.multi ms) = true) :
    SameAnswer (fieldType k) (.multi ms) (.multi ms') :=
  query_order_independent _ (wf_of_field k) ms ms' hp hw

/-! ## non-vacuity -/
example : [Ty.int, Ty.arr .any].Perm [Ty.arr .any, Ty.int] := List.Perm.swap _ _ _

end Ssl.C05
