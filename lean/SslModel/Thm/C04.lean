import SslModel.Thm.C08
import SslModel.Thm.C09
import SslModel.Lemmas.SpecEq
/-!
# C04 — constant folding and propagation are unobservable

The `Recreate` pass of the implementation rewrites the instruction tree.  Each rewrite rule it
applies is shown here to be an equivalence of the reference semantics `Spec` (same value, same
store, same signal), and each parse-time error it may report is shown to be an error the
operation raises *whenever* it is evaluated, whatever the environment, the store and the other
operand.  The rules themselves (which operator is folded through which `exec`) are tied to the
source by the translated tables of C08 (`three_paths_fold`).  That the pass as a whole, constant
*propagation* through names included, preserves `Spec` is `Thm/C04Fold`; the theorems here are the
single rules at an exact fuel.
-/
namespace Ssl.C04
open Ssl Ssl.Spec

theorem bind_def {α β} (m : M α) (k : α → M β) (σ : St) :
    (m >>= k) σ = (match m σ with
      | (.ok a, σ') => k a σ'
      | (.error e, σ') => (.error e, σ')) := rfl

/-- literals evaluate to their value, in any environment, without touching the store -/
theorem literal_pure (f : Nat) (env : Env) (σ : St) :
    (∀ b, eval (f + 1) env (.litBool b) σ = (.ok (.bool b), σ)) ∧
    (∀ i, eval (f + 1) env (.litInt i) σ = (.ok (.int (BitVec.ofInt 64 i)), σ)) ∧
    (∀ x, eval (f + 1) env (.litFloat x) σ = (.ok (.float x), σ)) ∧
    (∀ s, eval (f + 1) env (.litStr s) σ = (.ok (.str s), σ)) ∧
    eval (f + 1) env .litUnit σ = (.ok .unit, σ) :=
  ⟨fun _ => rfl, fun _ => rfl, fun _ => rfl, fun _ => rfl, rfl⟩

/-! ## folding an operator applied to two constants -/

/-- `c₁ op c₂` is exactly the operator's own `exec` on the two constants: no store change, and the
    same outcome in every environment — so replacing it by its result, or reporting its error at
    parse time, cannot be observed -/
theorem fold_int_binop (f : Nat) (env : Env) (σ : St) (op : BinOp) (a b : Int)
    (h : op ≠ .map ∧ op ≠ .filter ∧ op ≠ .partition) :
    eval (f + 2) env (.bin op (.litInt a) (.litInt b)) σ =
      (binScalar op (.int (BitVec.ofInt 64 a)) (.int (BitVec.ofInt 64 b)), σ) := by
  have hop : isIterOp op = false := by
    cases op <;> first | rfl | (exact absurd rfl h.1) | (exact absurd rfl h.2.1) | (exact absurd rfl h.2.2)
  rw [eval_bin_scalar _ _ _ _ _ hop, eval_litInt, eval_litInt]; rfl

theorem fold_bool_binop (f : Nat) (env : Env) (σ : St) (op : BinOp) (a b : Bool)
    (h : op = .band ∨ op = .bor ∨ op = .bxor ∨ op = .eq ∨ op = .ne) :
    eval (f + 2) env (.bin op (.litBool a) (.litBool b)) σ = (binScalar op (.bool a) (.bool b), σ) := by
  rcases h with rfl | rfl | rfl | rfl | rfl <;> (rw [eval_bin_scalar _ _ _ _ _ rfl, eval_litBool, eval_litBool]; rfl)

theorem fold_prefix (f : Nat) (env : Env) (σ : St) (a : Int) :
    eval (f + 2) env (.pre .neg (.litInt a)) σ = (preScalar .neg (.int (BitVec.ofInt 64 a)), σ) ∧
    eval (f + 2) env (.pre .not (.litInt a)) σ = (preScalar .not (.int (BitVec.ofInt 64 a)), σ) := by
  constructor <;> (rw [eval_pre_scalar _ _ _ _ (by decide), eval_litInt]; rfl)

/-! ## pruning `&&`, `||`, `if`, `while` on a constant -/

theorem and_true_left (f : Nat) (env : Env) (b : Expr) :
    eval (f + 2) env (.and (.litBool true) b) = eval (f + 1) env b := by
  rw [eval_and, eval_litBool, bool_bind]; rfl

/-- `false && b` is `false`; `b` is not evaluated (and need not even be folded) -/
theorem and_false_left (f : Nat) (env : Env) (b : Expr) (σ : St) :
    eval (f + 2) env (.and (.litBool false) b) σ = (.ok (.bool false), σ) := by
  rw [eval_and, eval_litBool, bool_bind]; rfl

theorem or_true_left (f : Nat) (env : Env) (b : Expr) (σ : St) :
    eval (f + 2) env (.or (.litBool true) b) σ = (.ok (.bool true), σ) := by
  rw [eval_or, eval_litBool, bool_bind]; rfl

theorem or_false_left (f : Nat) (env : Env) (b : Expr) :
    eval (f + 2) env (.or (.litBool false) b) = eval (f + 1) env b := by
  rw [eval_or, eval_litBool, bool_bind]; rfl

theorem if_true_prunes (f : Nat) (env : Env) (t : Expr) (e : Option Expr) :
    eval (f + 2) env (.ifElse (.litBool true) t e) = eval (f + 1) env t := by
  rw [eval_ifElse, eval_litBool, bool_bind]; rfl

theorem if_false_prunes (f : Nat) (env : Env) (t e : Expr) :
    eval (f + 2) env (.ifElse (.litBool false) t (some e)) = eval (f + 1) env e := by
  rw [eval_ifElse, eval_litBool, bool_bind]; rfl

theorem if_false_no_else_is_unit (f : Nat) (env : Env) (t : Expr) (σ : St) :
    eval (f + 2) env (.ifElse (.litBool false) t none) σ = (.ok .unit, σ) := by
  rw [eval_ifElse, eval_litBool, bool_bind]; rfl

theorem while_false_is_unit (f : Nat) (env : Env) (body : Expr) (σ : St) :
    eval (f + 3) env (.while (.litBool false) body) σ = (.ok .unit, σ) := by
  simp only [eval, whileGo, bind_def, liftE, asBool]; rfl

/-! ## dropping a constant statement that is not the last one -/

theorem drop_constant_statement (f : Nat) (env : Env) (i : Int) (s : Expr) (rest : List Expr) :
    evalSeq (f + 3) env (.litInt i :: s :: rest) = evalSeq (f + 2) env (s :: rest) := by
  funext σ; simp only [evalSeq, evalStmt, eval, bind_def]; rfl

/-! ## errors that may be reported at parse time are errors whenever the operation is evaluated -/

/-- `x / 0`, `x % 0` fail for every int `x` -/
theorem division_by_constant_zero (x : I64) :
    binScalar .div (.int x) (.int 0) = .error (.err .ZeroDivision) ∧
    binScalar .mod (.int x) (.int 0) = .error (.err .ZeroModulo) :=
  ⟨congrArg ofScalar (C08.div_zero x 0 rfl), congrArg ofScalar (C08.rem_zero x 0 rfl)⟩

/-- a shift by a constant outside 0..=63 fails for every left operand -/
theorem shift_by_constant_out_of_range (x s : I64) (h : s.toInt < 0 ∨ 63 < s.toInt) :
    binScalar .shl (.int x) (.int s) = .error (.err .OverflowShift) ∧
    binScalar .shr (.int x) (.int s) = .error (.err .OverflowShift) :=
  ⟨congrArg ofScalar (C08.shl_err x s h), congrArg ofScalar (C08.shr_err x s h)⟩

/-- indexing an array of `n` elements with a constant outside `-n ..< n` fails whatever the
    elements are (the rule applied to array *literals* with non-constant elements) -/
theorem index_constant_out_of_range (t : Ty) (es : List Val) (i : I64)
    (h : ¬ (-(es.length : Int) ≤ i.toInt ∧ i.toInt < es.length)) :
    atVal (.arr t es) (.int i) = .error (.err .IndexOutOfBounds) := by
  simp only [atVal, (C09.at_err_iff es.length i.toInt).2 h]

/-- a negative constant length fails for every repeated value -/
theorem negative_constant_length (f : Nat) (env : Env) (σ σ1 : St) (v : Expr) (x : Val) (n : Int)
    (hv : eval (f + 1) env v σ = (.ok x, σ1)) (hn : (BitVec.ofInt 64 n).toInt < 0) :
    eval (f + 2) env (.arrayRepeat v (.litInt n)) σ = (.error (.err .NegativeLength), σ1) := by
  rw [eval]
  simp only [bind_def, hv]
  rw [eval]
  simp only [pure, hn, if_true, throwS]

end Ssl.C04
