import SslModel.Thm.C01Values
/-!
# C01 / C02 — what a scalar operator yields on typed operands; the invariants that need no store

Under any invariant on values in the sense of `Val.Inv`, a binary operator on operands of the types the checker admits
yields a value of the type the checker assigns or a documented error, never `wrong`: `inv_out_bin`, one traversal of
`binTy` over the operator rows of Thm/C01 and Thm/C02.  Then the invariants themselves.  For the first-order fragment
(`C01.EnvOk`): variables hold `plain` values below their static types.  With functions (`CF`): a function value is `Good`
when the checker model accepted its body in some static environment that its captured values respect, so that the
callee's environment respects the environment its body was checked in (`EnvRel.callee`, which `envOkG_callee` states in
the invariant's own terms); an outcome is a value of the type or an admissible signal - a documented error, fuel, a
well-typed `return`; never `wrong`, never an escaping `break` / `continue`.
-/

namespace Ssl.C01
open Ssl Ssl.Ty Ssl.Val Ssl.Spec Ssl.Check

def EnvOk (env : Env) (g : TEnv) : Prop :=
  ∀ x t, g.lookup x = some t → ∃ v, env.lookup x = some v ∧ sub v.asType t = true ∧ plain v = true

theorem envOk_insert (env : Env) (g : TEnv) (x : String) (v : Val) (t : Ty) (h : EnvOk env g)
    (hv : sub v.asType t = true) (fv : plain v = true) : EnvOk (env.insert x v) ((x, t) :: g) :=
  EnvRel.insert (P := fun t v => sub v.asType t = true ∧ plain v = true) h x ⟨hv, fv⟩

theorem envOk_bind (env : Env) (g : TEnv) (x : String) (v : Val) (t : Ty) (h : EnvOk env g)
    (hv : sub v.asType t = true) (fv : plain v = true) : EnvOk ([(x, v)] :: env) ((x, t) :: g) :=
  EnvRel.bind (P := fun t v => sub v.asType t = true ∧ plain v = true) h x ⟨hv, fv⟩

theorem envOk_push (env : Env) (g : TEnv) (h : EnvOk env g) : EnvOk ([] :: env) g :=
  EnvRel.push (P := fun t v => sub v.asType t = true ∧ plain v = true) h

end Ssl.C01

namespace Ssl.CF
open Ssl Ssl.Ty Ssl.Val Ssl.Spec Ssl.Check Ssl.CheckF Ssl.C01

def scalarV : Val → Bool
  | .bool _ | .int _ | .float _ | .str _ | .unit => true
  | _ => false

/-- an operator row of `Thm/C02` (never `wrong`) with what the row yields when it is a value -/
theorem okOrErr_of_notWrong {P : Val → Prop} {r : Except Sig Val} (h : C02.notWrong r) (hok : ∀ v, r = .ok v → P v) :
    OkOrErr P r := by
  rcases h with ⟨v, rfl⟩ | ⟨e, rfl⟩
  · exact hok v rfl
  · exact ⟨e, rfl⟩

/-- the int row of the operator table for the operators that stay in `int`, at a type above `int` -/
theorem int_row {G : Val → Prop} (I : Val.Inv G) (op : BinOp) (a b : I64) {T : Ty}
    (hop : op = .add ∨ op = .sub ∨ op = .mul ∨ op = .div ∨ op = .mod ∨ op = .pow ∨ op = .band ∨
           op = .bor ∨ op = .bxor ∨ op = .shl ∨ op = .shr)
    (hT : sub (Val.int a).asType T = true) :
    OkOrErr (fun v => sub v.asType T = true ∧ G v) (binScalar op (.int a) (.int b)) := by
  refine okOrErr_of_notWrong (C02.int_operators_total op a b ?_) fun v hv => ?_
  · rcases hop with rfl | rfl | rfl | rfl | rfl | rfl | rfl | rfl | rfl | rfl | rfl <;> simp
  · obtain ⟨k, rfl⟩ := int_of_hasTy (int_arith_yields_int op a b v hop hv)
    exact ⟨by simpa only [asType] using hT, I.int k⟩

/-- the float row, for the operators that stay in `float` -/
theorem float_row {G : Val → Prop} (I : Val.Inv G) (op : BinOp) (a b : F64) {T : Ty}
    (hop : op = .add ∨ op = .sub ∨ op = .mul ∨ op = .div ∨ op = .pow) (hT : sub (Val.float a).asType T = true) :
    OkOrErr (fun v => sub v.asType T = true ∧ G v) (binScalar op (.float a) (.float b)) := by
  refine okOrErr_of_notWrong (C02.float_operators_total op a b ?_) fun v hv => ?_
  · rcases hop with rfl | rfl | rfl | rfl | rfl <;> simp
  · obtain ⟨k, rfl⟩ := float_of_hasTy (float_arith_yields_float op a b v hop hv)
    exact ⟨by simpa only [asType] using hT, I.float k⟩

/-- `+` on two arrays under an invariant on values: the longer operand's tag or the join of the two lies below the join of
    the static element types, and the elements stay good -/
theorem inv_concatArrays {G : Val → Prop} (I : Val.Inv G) {t1 t2 le re : Ty} {xs ys : List Val}
    (tx : sub (Val.arr t1 xs).asType (.arr le) = true) (gx : G (.arr t1 xs))
    (ty : sub (Val.arr t2 ys).asType (.arr re) = true) (gy : G (.arr t2 ys))
    (wl : wf (Ty.arr le) = true) (wr : wf (Ty.arr re) = true) :
    OkOrErr (fun v => sub v.asType (.arr (concat le re)) = true ∧ G v) (binScalar .add (.arr t1 xs) (.arr t2 ys)) := by
  simp only [asType, Ty.sub_arr] at tx ty
  obtain ⟨w1, hs1, hg1⟩ := I.arr.mp gx
  obtain ⟨w2, hs2, hg2⟩ := I.arr.mp gy
  have wc := concat_wf t1 t2 w1 w2
  obtain ⟨u1, u2⟩ := concat_upper le re wl wr
  obtain ⟨v1, v2⟩ := concat_upper t1 t2 w1 w2
  have s1 : sub t1 (concat le re) = true := sub_trans t1 le _ tx u1
  have s2 : sub t2 (concat le re) = true := sub_trans t2 re _ ty u2
  simp only [binScalar, concatArrays]
  split
  · exact ⟨by simp only [asType, Ty.sub_arr]; exact s2, gy⟩
  · split
    · exact ⟨by simp only [asType, Ty.sub_arr]; exact s1, gx⟩
    · refine ⟨by simp only [asType, Ty.sub_arr]; exact concat_below t1 t2 _ s1 s2, I.arr.mpr ⟨wc, ?_, ?_⟩⟩
      · intro e he
        rcases List.mem_append.mp he with h | h
        · exact sub_trans _ t1 _ (hs1 e h) v1
        · exact sub_trans _ t2 _ (hs2 e h) v2
      · intro e he
        rcases List.mem_append.mp he with h | h
        · exact hg1 e h
        · exact hg2 e h

theorem inv_out_bin {G : Val → Prop} (I : Val.Inv G)
    (op : BinOp) (l r T : Ty) (x y : Val) (tx : sub x.asType l = true) (gx : G x) (ty : sub y.asType r = true) (gy : G y)
    (wl : wf l = true) (wr : wf r = true) (ht : binTy op l r = .ok T) :
    OkOrErr (fun v => sub v.asType T = true ∧ G v) (binScalar op x y) := by
  have cx := I.hasTy_of_tag gx tx
  have cy := I.hasTy_of_tag gy ty
  -- the operands as a pair in the operator's accepted type
  have pair : ∀ acc, sub (pairTy l r) acc = true → hasTy (.tup [x, y]) acc = true :=
    fun acc hs => hasTy_of_sub (.tup [x, y]) (pairTy l r) acc hs (hasTy_pair_iff.mpr ⟨cx, cy⟩)
  -- a Boolean result
  have bool : ∀ k, sub (Val.bool k).asType .bool = true ∧ G (.bool k) := fun k => ⟨by simp [asType, sub, eqv], I.bool k⟩
  cases op with
  | sub | mul | div | pow =>
    simp only [binTy] at ht
    obtain ⟨hs, ht⟩ := Res.ite_ill_ok ht
    rw [(okW_ok ht).1]
    rcases in_accNum x y (pair _ hs) with ⟨a, b, rfl, rfl⟩ | ⟨a, b, rfl, rfl⟩
    · exact int_row I _ a b (by simp) tx
    · exact float_row I _ a b (by simp) tx
  | lt | le | gt | ge =>
    simp only [binTy] at ht
    obtain ⟨hs, ht⟩ := Res.ite_ill_ok ht
    cases ht
    rcases in_accNum x y (pair _ hs) with ⟨a, b, rfl, rfl⟩ | ⟨a, b, rfl, rfl⟩
    · refine okOrErr_of_notWrong (C02.int_operators_total _ a b (by simp)) fun v hv => ?_
      simp only [binScalar] at hv
      obtain ⟨k, rfl⟩ := interp_cmp_bool _ (by decide) a b v hv
      exact bool k
    · exact bool _
  | mod | shl | shr =>
    simp only [binTy] at ht
    obtain ⟨hs, ht⟩ := Res.ite_ill_ok ht
    cases ht
    obtain ⟨a, b, rfl, rfl⟩ := in_accInt x y (pair _ hs)
    exact int_row I _ a b (by simp) (by simp [asType, sub, eqv])
  | band | bor | bxor =>
    simp only [binTy] at ht
    obtain ⟨hs, ht⟩ := Res.ite_ill_ok ht
    rw [(okW_ok ht).1]
    rcases in_accBit x y (pair _ hs) with ⟨a, b, rfl, rfl⟩ | ⟨a, b, rfl, rfl⟩
    · exact int_row I _ a b (by simp) tx
    · exact ⟨by simpa only [asType] using tx, I.bool _⟩
  | eq | ne => simp only [binTy] at ht; cases ht; exact bool _
  | filter | map | partition => simp only [binTy] at ht; cases ht
  | add =>
    simp only [binTy] at ht
    split at ht
    · -- two arrays
      rename_i le re
      rw [(okW_ok ht).1]
      obtain ⟨t1, xs, rfl⟩ := arr_of_hasTy cx
      obtain ⟨t2, ys, rfl⟩ := arr_of_hasTy cy
      exact inv_concatArrays I tx gx ty gy wl wr
    · split at ht
      · rename_i hs
        rw [(okW_ok ht).1]
        rcases in_accAddScalar x y (pair _ hs) with ⟨a, b, rfl, rfl⟩ | ⟨a, b, rfl, rfl⟩ | ⟨a, b, rfl, rfl⟩
        · exact int_row I _ a b (by simp) tx
        · exact float_row I _ a b (by simp) tx
        · exact ⟨by simpa only [asType] using tx, I.str _⟩
      · split at ht <;> cases ht
/-- `!` and `-` on an operand whose type lies below the operator's accepted type (`int | bool`, `int | float`): a value of the
    operand's own kind, so of every type its tag lies below -/
theorem inv_out_pre {G : Val → Prop} (I : Val.Inv G) (op : PreOp) (acc t : Ty) (x : Val)
    (hop : op = .not ∧ acc = accNot ∨ op = .neg ∧ acc = accNeg) (tx : sub x.asType t = true) (gx : G x)
    (hs : sub t acc = true) : OkOrErr (fun v => sub v.asType t = true ∧ G v) (preScalar op x) := by
  have hm := hasTy_of_sub x t acc hs (I.hasTy_of_tag gx tx)
  rcases hop with ⟨rfl, rfl⟩ | ⟨rfl, rfl⟩
  · simp only [accNot, hasTy_multi, hasTyAny, Bool.or_eq_true, Bool.or_false] at hm
    rcases hm with hm | hm
    · obtain ⟨k, rfl⟩ := int_of_hasTy hm
      exact ⟨by rw [sameKind_asType (b := .int k) rfl]; exact tx, I.int _⟩
    · obtain ⟨k, rfl⟩ := bool_of_hasTy hm
      exact ⟨by rw [sameKind_asType (b := .bool k) rfl]; exact tx, I.bool _⟩
  · simp only [accNeg, hasTy_multi, hasTyAny, Bool.or_eq_true, Bool.or_false] at hm
    rcases hm with hm | hm
    · obtain ⟨k, rfl⟩ := int_of_hasTy hm
      exact ⟨by rw [sameKind_asType (b := .int k) rfl]; exact tx, I.int _⟩
    · obtain ⟨k, rfl⟩ := float_of_hasTy hm
      exact ⟨by rw [sameKind_asType (b := .float k) rfl]; exact tx, I.float _⟩

/-- the static environment a function body is checked in: parameters over the function's own name (if declared) over
    the environment of the definition -/
def bodyEnv (self : Option String) (ps : List (String × Ty)) (rt : Ty) (Γ : TEnv) : TEnv :=
  bindParams ps (match self with
    | some x => (x, .fn (ps.map (·.2)) rt) :: Γ
    | none => Γ)

/-- the checker accepted the body: it is typed with the declared result type, and falls off its end only if `()`
    is a result (some top-level statement has type `!` otherwise) -/
def BodyOk (self : Option String) (ps : List (String × Ty)) (rt : Ty) (body : List Expr) (Γ : TEnv) : Prop :=
  ∃ ts g', tyFSeq (some rt) (bodyEnv self ps rt Γ) body = .ok (ts, g') ∧
    (sub .void rt = true ∨ ts.any (fun t => eqv t .never) = true)

/-- values the fragment builds: scalars, arrays whose stored tag is well-formed and above the elements' tags, tuples,
    and FUNCTION values whose body the checker accepted in some static environment that the captured values respect -/
inductive Good : Val → Prop
  | bool (b : Bool) : Good (.bool b)
  | int (i : I64) : Good (.int i)
  | float (x : F64) : Good (.float x)
  | str (s : String) : Good (.str s)
  | unit : Good .unit
  | arr (t : Ty) (es : List Val) : wf t = true → (∀ e ∈ es, sub e.asType t = true) → (∀ e ∈ es, Good e) → Good (.arr t es)
  | tup (es : List Val) : (∀ e ∈ es, Good e) → Good (.tup es)
  | fn (id : Nat) (ps : List (String × Ty)) (rt : Ty) (body : List Expr) (cap : List (String × Val)) (self : Option String)
      (Γ : TEnv) : wfParams ps = true → wf rt = true → (∀ x t, Γ.lookup x = some t → wf t = true) →
      (∀ x t, Γ.lookup x = some t → ∃ v, frameLookup x cap = some v ∧ sub v.asType t = true) →
      (∀ x t v, Γ.lookup x = some t → frameLookup x cap = some v → Good v) →
      BodyOk self ps rt body Γ → Good (.fn id ps rt body cap self)

theorem good_of_scalarish {v : Val} (h : plain v = true) (hs : scalarV v = true) : Good v := by
  cases v <;> simp [scalarV] at hs <;> constructor

def VT (T : Ty) (v : Val) : Prop := sub v.asType T = true ∧ Good v

/-- what a signal may be: a `return` of a value of the enclosing function's result type, a documented run-time error,
    or fuel exhaustion - never `break` / `continue` and never `wrong` -/
def okSig (ret : Option Ty) : Sig → Prop
  | .ret v => ∃ rt, ret = some rt ∧ VT rt v
  | .err _ => True
  | .fuel => True
  | .brk => False
  | .cont => False
  | .wrong _ => False

theorem tagArr_sub (t e : Ty) (h : sub (Ty.arr t) (Ty.arr e) = true) : sub t e = true := by rwa [Ty.sub_arr] at h

def OutP {α} (ret : Option Ty) (P : α → Prop) (r : Except Sig α × St) : Prop :=
  match r.1 with
  | .ok a => P a
  | .error s => okSig ret s

theorem outP_ok {α} {ret : Option Ty} {P : α → Prop} {r : Except Sig α × St} {a : α} {σ : St} (h : OutP ret P r)
    (hr : r = (.ok a, σ)) : P a := by
  subst hr; simpa [OutP] using h

/-- `EnvOk` over `Good` values: the suffix `G` marks the notion for good values where the plain name is the one for `plain`
    values -/
def EnvOkG (env : Env) (g : TEnv) : Prop := ∀ x t, g.lookup x = some t → ∃ v, env.lookup x = some v ∧ VT t v

def GWf (g : TEnv) : Prop := ∀ x t, g.lookup x = some t → wf t = true

theorem gwf_cons (g : TEnv) (x : String) (t : Ty) (h : GWf g) (wt : wf t = true) : GWf ((x, t) :: g) := by
  intro y ty hy
  simp only [TEnv.lookup] at hy
  split at hy
  · cases hy; exact wt
  · exact h y ty hy

def ArgsOk : List (String × Ty) → List Val → Prop
  | [], [] => True
  | (_, t) :: ps, v :: vs => VT t v ∧ ArgsOk ps vs
  | _, _ => False

theorem argsRel_of_argsOk : ∀ {ps : List (String × Ty)} {args : List Val}, ArgsOk ps args → ArgsRel VT ps args
  | [], [], _ => trivial
  | (_, _) :: _, _ :: _, h => ⟨h.1, argsRel_of_argsOk h.2⟩

theorem envOkG_callee (fv : Val) (ps : List (String × Ty)) (rt : Ty) (cap : Frame) (self : Option String)
    (args : List Val) (Γ : TEnv) (hargs : ArgsOk ps args)
    (hself : ∀ x, self = some x → VT (.fn (ps.map (·.2)) rt) fv)
    (hcap : ∀ x t, Γ.lookup x = some t → ∃ v, frameLookup x cap = some v ∧ VT t v) :
    EnvOkG (calleeEnv fv ps cap self args) (bodyEnv self ps rt Γ) :=
  EnvRel.callee fv ps rt cap self args Γ (argsRel_of_argsOk hargs) hself hcap

def RWf (ret : Option Ty) : Prop := ∀ rt, ret = some rt → wf rt = true

theorem gwf_bodyEnv (self : Option String) (ps : List (String × Ty)) (rt : Ty) (Γ : TEnv) (hΓ : GWf Γ)
    (wp : wfParams ps = true) (wr : wf rt = true) : GWf (bodyEnv self ps rt Γ) := by
  have wft : wf (Ty.fn (ps.map (·.2)) rt) = true := by simp [wf, wfL_of_wfParams ps wp, wr]
  have base : GWf (match self with | some x => (x, Ty.fn (ps.map (·.2)) rt) :: Γ | none => Γ) := by
    cases self with
    | none => exact hΓ
    | some x => exact gwf_cons Γ x _ hΓ wft
  unfold bodyEnv bindParams
  intro y t hy
  -- a lookup in `ps.reverse ++ rest` is a parameter type or a lookup in `rest`
  have key : ∀ (l : List (String × Ty)) (rest : TEnv), (∀ p ∈ l, wf p.2 = true) → GWf rest → GWf (l ++ rest) := by
    intro l
    induction l with
    | nil => intro rest _ h; simpa using h
    | cons p l ih =>
      intro rest hl h
      obtain ⟨n, tp⟩ := p
      exact gwf_cons _ n tp (ih rest (fun q hq => hl q (by simp [hq])) h) (hl (n, tp) (by simp))
  exact key ps.reverse _ (fun p hp => by
    have : p ∈ ps := by simpa using hp
    simp only [wfParams, List.all_eq_true] at wp
    exact wp p this) base y t hy

end Ssl.CF
