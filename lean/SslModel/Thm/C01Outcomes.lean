import SslModel.Thm.C01Steps
/-!
# C01 / C02 / C13 (stages 4-6) — soundness and progress with functions, mutable cells, loops, `for`, unions and structs

The induction over a level (Thm/C01Level, Thm/C01StepExpr, Thm/C01Steps) read at level `S`: one statement,
`CS.eval_outcome`, covers soundness, return typing and progress for the checker model `CheckS.tyS`, which the
`fragment-st-types` stream of tools/props/c01.py ties to the implementation.  That the final store respects an extension of
the store typing is what makes every later read sound (`CS.cells_keep_their_types`).
-/
namespace Ssl.CS
open Ssl Ssl.Ty Ssl.Val Ssl.Spec Ssl.Check Ssl.CheckF Ssl.CheckS Ssl.C01
variable {S : STy}

-- this statement and `cells_keep_their_types` keep the side condition on `ret`, which the induction does not use
set_option linter.unusedVariables false in
/-- **soundness and progress with functions, mutable cells and loops**: for an expression the checker model types, the
    reference evaluator - with any fuel, from any store `σ` that respects a store typing `S`, in any environment whose
    variables hold good values with tags below their static types - ends with a store that respects an extension of `S` and
    a value whose tag lies below the type and which inhabits it by contents; or in a documented run-time error; or runs out
    of fuel; or `return`s a value of the enclosing function's result type; or, inside a loop body only, in `break` /
    `continue`.  It never reaches `wrong` (a cell that does not exist, an operator applied to operands of the wrong kind,
    a call of a non-function, an uncovered `match` ...). -/
theorem eval_outcome (f : Nat) (lp : Bool) (ret : Option Ty) (S : STy) (g : TEnv) (env : Env) (e : Expr) (T : Ty) (σ : St)
    (henv : EnvOkG S env g) (hg : GWf g) (hr : RWf ret) (hst : StoreOk S σ) (ht : tyS lp ret g e = .ok T) :
    OutP lp ret S (fun S' v => VT S' T v ∧ hasTy v T = true) (eval f env e σ) :=
  evalX_outcome .S f lp ret S g env e T σ henv hg hst ht

set_option linter.unusedVariables false in
/-- the store invariant is what makes a later read sound: in every store the evaluation of a typed expression ends with,
    every cell holds a value of the cell's declared type (by tag and by contents) -/
theorem cells_keep_their_types (f : Nat) (lp : Bool) (ret : Option Ty) (S : STy) (g : TEnv) (env : Env) (e : Expr) (T : Ty) (σ σ' : St) (v : Val)
    (henv : EnvOkG S env g) (hg : GWf g) (hr : RWf ret) (hst : StoreOk S σ) (ht : tyS lp ret g e = .ok T)
    (hev : eval f env e σ = (.ok v, σ')) :
    ∃ S', Ext S S' ∧ σ'.cells.size = S'.length ∧
      ∀ (loc : Nat) (ty : Ty), S'[loc]? = some ty → ∃ w, σ'.cells[loc]? = some w ∧ sub w.asType ty = true ∧ hasTy w ty = true := by
  have := (allAt f).expr .S lp ret S g env e T σ henv hg hst ht
  rw [hev] at this
  obtain ⟨S', hle, hst', _⟩ := this
  refine ⟨S', hle, hst'.1, ?_⟩
  intro loc ty hl
  obtain ⟨w, hw, hvt⟩ := hst'.2.1 loc ty hl
  exact ⟨w, hw, hvt.1, vt_contents hvt⟩

/-- whole programs from the empty environment and the empty store: a value of the program's type, a documented error, or
    fuel - nothing else (at top level there is no enclosing function or loop, so `return`, `break` and `continue` are not
    outcomes either) -/
theorem program_outcome (f : Nat) (prog : List Expr) (T : Ty) (ht : tySProgram [] prog = .ok T) :
    (match (evalSeq f [[]] prog {}).1 with
     | .ok p => sub p.1.asType T = true ∧ hasTy p.1 T = true
     | .error (.err _) => True
     | .error .fuel => True
     | .error _ => False) := by
  unfold tySProgram at ht
  obtain ⟨p, hp, h2⟩ := Res.bind_ok ht
  obtain ⟨ts, g'⟩ := p
  cases h2
  have : OutP false none [] _ (evalSeq f [[]] prog {}) :=
    program_seq .S f hp ⟨rfl, by intro loc ty h; simp at h, by intro ty h; simp at h⟩
  cases hev : evalSeq f [[]] prog {} with
  | mk r σ1 =>
    rw [hev] at this
    simp only []
    cases r with
    | ok p =>
      obtain ⟨S', _, _, hvt, _, _, _⟩ := this
      exact ⟨hvt.1, vt_contents hvt⟩
    | error sg => cases sg <;> simp [OutP, okSig] at this ⊢

/-- non-vacuity: a counter cell, a `while` loop that updates it with compound assignments and leaves through `break`, a
    function that writes through a cell parameter -/
def sampleSt : List Expr :=
  [.set "c" (.mutE (some .int) (.litInt 0)),
   .fndecl "bump" [("k", .cell .int)] .int [.ret (some (.assign .add (.var "k") (.litInt 2)))],
   .«while» (.bin .lt (.pre .deref (.var "c")) (.litInt 10))
     (.block [.call (.var "bump") [.var "c"],
              .ifElse (.bin .gt (.pre .deref (.var "c")) (.litInt 7)) (.block [.brk]) none,
              .assign .mul (.var "c") (.litInt 2)]),
   .pre .deref (.var "c")]

example : tySProgram [] sampleSt = .ok .int := by
  simp [tySProgram, sampleSt, tySSeq, tySStmt, tyS, tySList, Res.bind, okW, binTy, TEnv.lookup, bindParams, wfParams, argsOk,
    lastTy, pairTy, accNum, accAddScalar, concat, wf, wfL, eqv, sub, anyMatch, matchesL, 
    Spec.assignBase, helperRet]

/-- non-vacuity for `for`, destructuring and a union-typed operand: a hand-written iterator over a counter cell, summed by a
    `for` loop, the sum taken apart from a tuple, a value of type `[int] | string` indexed -/
def sampleU : List Expr :=
  [.set "n" (.mutE (some .int) (.litInt 0)),
   .fndecl "it" [] (.tup [.bool, .int])
     [.assign .add (.var "n") (.litInt 1),
      .ret (some (.tuple [.bin .lt (.pre .deref (.var "n")) (.litInt 4), .pre .deref (.var "n")]))],
   .set "acc" (.mutE (some .int) (.litInt 0)),
   .forE "x" (.var "it") (.block [.assign .add (.var "acc") (.var "x")]),
   .destruct ["a", "b"] (.tuple [.pre .deref (.var "acc"), .litStr "s"]),
   .set "u" (.ifElse (.bin .gt (.var "a") (.litInt 3)) (.block [.array [.var "a"]]) (some (.block [.var "b"]))),
   .at (.var "u") (.litInt 0)]

example : tySProgram [] sampleU = .ok (.multi [.int, .str]) := by
  simp [tySProgram, sampleU, tySSeq, tySStmt, tyS, tySList, Res.bind, okW, binTy, TEnv.lookup, bindParams, wfParams, 
    lastTy, pairTy, accNum, accAddScalar, concat, concatL, wf, wfL, membersOk, nodupL, memL, eqv, sub, anyMatch, matchesL, allMatch, insertM,
    extendM, Spec.assignBase, bindAll, canBeIndexed, indexResult, query, foldQ, joinO]

end Ssl.CS
