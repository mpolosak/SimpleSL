import SslModel.Thm.C14Gen
import SslModel.Gen.PrattTable
import SslModel.Gen.DocPrecedence
import SslModel.Gen.BinOpMap
/-!
# C14 — operator precedence and associativity follow the documented table

All statements are over tables regenerated on every run from `parser/src/lib.rs`
(`Gen.prattLevels`), `parser/src/simplesl.pest` (`Gen.binOpAlts` …), `docs/operators.md`
(`Gen.docLevels`) and `src/bin_operator.rs` (`Gen.ruleToBinOp`), and over the model of pest's
Pratt loop in `Model/Pratt.lean`.  The quantifiers of the property are finite and discharged completely, not over a
sample.  What is read off the tables by evaluation is one row per rule of the grammar (`rows`), once; the grouping of
all ordered pairs and triples of binary operators then follows from the chain theorems of `Thm/C14Gen.lean`, and the
combinations with a prefix or postfix operator, which the chain theorems do not cover, from the Pratt loop run on the
rows of the operators involved (`parse_prefix_infix` … of `Thm/C14Gen.lean`).
-/
namespace Ssl.C14
open Ssl.Pratt

def T : Table := mkTable Gen.prattLevels

def infixRules : List String := Gen.binOpAlts.map (·.1)
def prefixRules : List String := Gen.prefixOpAlts.map (·.1)
def postfixRules : List String := Gen.postfixOpAlts.map (·.1)

/-- documented level (1 binds tightest) and associativity of a rule -/
def docLevel (r : String) : Option (Nat × Bool) :=
  (Gen.docLevels.find? (fun l => l.2.1.contains r)).map fun l => (l.1, l.2.2)

def a : Tok := ⟨"ident", 1⟩
def b : Tok := ⟨"ident", 2⟩
def c : Tok := ⟨"ident", 3⟩
def d : Tok := ⟨"ident", 4⟩
def op (r : String) : Tok := ⟨r, 0⟩

/-- the grouping docs/operators.md prescribes for `a o₁ b o₂ c` -/
def expectedPair (o1 o2 : String) : Option Tree :=
  match docLevel o1, docLevel o2 with
  | some (l1, r1), some (l2, _) =>
    if l1 < l2 || (l1 == l2 && !r1) then
      some (.bin (.bin (.prim a) (op o1) (.prim b)) (op o2) (.prim c))
    else some (.bin (.prim a) (op o1) (.bin (.prim b) (op o2) (.prim c)))
  | _, _ => none

def sameMembers (l1 l2 : List String) : Bool := l1.all (l2.contains ·) && l2.all (l1.contains ·)

/-! ## the table in the parser is the table in the documentation -/

/-- 14 levels; level k of the documentation (1 = tightest) has exactly the operators of the
    k-th `.op(...)` call counted from the end; infix operators have the documented associativity -/
theorem table_agrees_with_doc :
    Gen.docLevels.length = 14 ∧ Gen.prattLevels.length = 14 ∧
    (List.zip Gen.docLevels Gen.prattLevels.reverse).all (fun (dl, pl) =>
      sameMembers dl.2.1 (pl.map (·.1)) &&
      pl.all (fun (_, aff) => match aff with
        | .infixL => !dl.2.2 | .infixR => dl.2.2 | _ => true)) = true := by
  -- a sweep over whole string-keyed tables: plain `decide` would evaluate it in the elaborator first and the kernel
  -- then again, `+kernel` leaves it to the kernel alone (so for the other table-sized decisions below)
  decide +kernel

/-! ## one row per rule of the grammar -/

def lvl (o : String) : Nat := ((docLevel o).map (·.1)).getD 0
def rassoc (o : String) : Bool := ((docLevel o).map (·.2)).getD false

/-- the precedence of documented level `l` in the parser's table: of `n` levels, level `l` of the documentation is
    `.op` call `n - l` of the parser -/
def precOf (l : Nat) : Nat := 10 * (Gen.prattLevels.length + 2 - l)

theorem precOf_pos {l : Nat} (h : l ≤ Gen.prattLevels.length) : 0 < precOf l := by
  unfold precOf; omega

theorem precOf_lt {l l' : Nat} (h : l ≤ Gen.prattLevels.length) (h' : l' ≤ Gen.prattLevels.length) :
    precOf l < precOf l' ↔ l' < l := by
  unfold precOf; omega

theorem precOf_pred_lt {l l' : Nat} (h : l ≤ Gen.prattLevels.length) (h' : l' ≤ Gen.prattLevels.length) :
    precOf l - 1 < precOf l' ↔ l' ≤ l := by
  have := precOf_pos h
  rw [← Nat.not_lt, ← precOf_lt h' h]
  omega

/-- every operator is documented and stands in the parser's table with its affix, the precedence of its documented
    level and the documented associativity.  The prefix operators are level 2 and the binary operators bind looser; a
    postfix operator is on level 1 or binds looser than level 2, and a level it shares with binary operators is
    left-associative.  A primary has no row.  One statement, so that the strings of the tables are evaluated once. -/
theorem rows :
    (∀ o ∈ infixRules, infixPrec T (op o) = some (precOf (lvl o), rassoc o) ∧ 2 < lvl o ∧
      lvl o ≤ Gen.prattLevels.length ∧ docLevel o = some (lvl o, rassoc o)) ∧
    (∀ p ∈ prefixRules, T.get p = some (.prefixOp, precOf 2)) ∧
    (∀ q ∈ postfixRules, T.get q = some (.postfixOp, precOf (lvl q)) ∧ (lvl q = 1 ∨ 2 < lvl q) ∧
      lvl q ≤ Gen.prattLevels.length ∧ docLevel q = some (lvl q, rassoc q) ∧
      ∀ o ∈ infixRules, lvl o = lvl q → rassoc o = false) ∧
    (∀ r ∈ Gen.primaryAlts, T.get r = none) := by decide +kernel

theorem infix_rows : ∀ o ∈ infixRules, infixPrec T (op o) = some (precOf (lvl o), rassoc o) ∧ 2 < lvl o ∧
    lvl o ≤ Gen.prattLevels.length ∧ docLevel o = some (lvl o, rassoc o) := rows.1

theorem two_le_levels : 2 ≤ Gen.prattLevels.length := by rw [table_agrees_with_doc.2.1]; decide

theorem ident_prim : T.get "ident" = none := rows.2.2.2 "ident" (by decide)

/-- every alternative of the grammar's `bin_op` / `prefix_op` / `postfix_op` is in the table with
    the right affix, and no `primary` alternative is (so the Pratt loop's panics are unreachable
    on any pair sequence the grammar's `expr` rule can produce) -/
theorem table_covers_grammar :
    infixRules.all (fun r => match T.get r with
      | some (.infixL, _) | some (.infixR, _) => true | _ => false) = true ∧
    prefixRules.all (fun r => match T.get r with | some (.prefixOp, _) => true | _ => false) = true ∧
    postfixRules.all (fun r => match T.get r with | some (.postfixOp, _) => true | _ => false) = true ∧
    Gen.primaryAlts.all (fun r => (T.get r).isNone) = true := by
  simp only [List.all_eq_true]
  refine ⟨fun r hr => ?_, fun r hr => ?_, fun r hr => ?_, fun r hr => ?_⟩
  · have e := infixPrec_get (infix_rows r hr).1
    simp only [op] at e
    rw [e]; cases rassoc r <;> rfl
  · rw [rows.2.1 r hr]
  · rw [(rows.2.2.1 r hr).1]
  · rw [rows.2.2.2 r hr]; rfl

/-- every operator of the table is an operator of the grammar (no dead / misspelt entries) -/
theorem table_within_grammar :
    T.all (fun (r, _, _) => infixRules.contains r || prefixRules.contains r || postfixRules.contains r)
      = true := by decide +kernel

/-! ## the documented grouping is the precedence-correct tree, so it is what the parser builds

`Thm/C14Gen.lean` shows that on an operand / binary-operator chain the Pratt loop answers THE tree that is
precedence-correct at every node.  What remains to be read off the tables is one row per operator: its precedence in
the parser's table is the mirror image of its documented level, with the documented associativity. -/

/-- the hypothesis of the chain theorems holds of the table regenerated from `parser/src/lib.rs` -/
theorem table_uniform : Uniform T := uniform_of_uniformB T (by decide +kernel)

/-- the parser's own table, a chain of any length: the parser answers a tree that reads back as the chain and is
    precedence-correct at every node -/
theorem parser_chain_grouping (toks : List Tok) (ha : altP T toks = true) :
    ∃ t, Pratt.parse T toks = .ok t ∧ flatten t = toks ∧ PC T t :=
  parse_chain_total T table_uniform toks ha

/-- … and that tree is the only precedence-correct one -/
theorem parser_chain_unique (toks : List Tok) (ha : altP T toks = true) (t' : Tree) (hw : WFT T t') (hpc : PC T t')
    (hf : flatten t' = toks) : Pratt.parse T toks = .ok t' :=
  parse_chain_unique T table_uniform toks ha t' hw hpc hf

/-- the premise of the two is satisfiable: a chain of five operators on three levels -/
example : altP T [a, op "add", b, op "multiply", c, op "pow", d, op "pow", a, op "subtract", b, op "equal", c] = true := by decide +kernel

/-- does operator `x` (to the left) take its right neighbour operand before operator `y` (to the right)? -/
def leftFirst (x y : String) : Bool := lvl x < lvl y || (lvl x == lvl y && !rassoc x)

theorem leftOk_of_leftFirst {x y : String} (hx : x ∈ infixRules) (hy : y ∈ infixRules) (h : leftFirst x y = true)
    (l r : Tree) : leftOk T (.bin l (op x) r) (op y) := by
  obtain ⟨ex, _, nx, _⟩ := infix_rows x hx
  obtain ⟨ey, _, ny, _⟩ := infix_rows y hy
  intro o1 p ra p1 ra1 ho1 hp hp1
  cases ho1
  rw [ey] at hp; rw [ex] at hp1; cases hp; cases hp1
  simp only [leftFirst, Bool.or_eq_true, Bool.and_eq_true, decide_eq_true_eq, beq_iff_eq, Bool.not_eq_true'] at h
  rcases h with h | ⟨h, hr⟩
  · exact .inl ((precOf_lt ny nx).mpr h)
  · rw [h] at ex ⊢
    exact .inr ⟨rfl, (table_uniform.assoc _ _ _ _ _ ey ex).trans hr⟩

theorem rightOk_of_not_leftFirst {x y : String} (hx : x ∈ infixRules) (hy : y ∈ infixRules) (h : leftFirst x y = false)
    (l r : Tree) : rightOk T (op x) (.bin l (op y) r) := by
  obtain ⟨ex, _, nx, _⟩ := infix_rows x hx
  obtain ⟨ey, _, ny, _⟩ := infix_rows y hy
  intro o2 p ra p2 ra2 ho2 hp hp2
  cases ho2
  rw [ex] at hp; rw [ey] at hp2; cases hp; cases hp2
  simp only [leftFirst, Bool.or_eq_false_iff, Bool.and_eq_false_iff, decide_eq_false_iff_not, beq_eq_false_iff_ne,
    Bool.not_eq_false', Nat.not_lt] at h
  obtain ⟨hle, h⟩ := h
  rcases Nat.lt_or_eq_of_le hle with hlt | e
  · exact .inl ((precOf_lt nx ny).mpr hlt)
  · exact .inr ⟨congrArg precOf e, h.resolve_left (fun ne => ne e.symm)⟩

theorem operands_prim : isPrim T a = true ∧ isPrim T b = true ∧ isPrim T c = true ∧ isPrim T d = true :=
  have h : (T.get "ident").isNone = true := by rw [ident_prim]; rfl
  ⟨h, h, h, h⟩

theorem infixPrec_isSome {o : String} (ho : o ∈ infixRules) : (infixPrec T (op o)).isSome = true := by
  rw [(infix_rows o ho).1]; rfl

/-! ## all ordered pairs of binary operators group as documented -/

theorem expectedPair_eq {o1 o2 : String} (h1 : o1 ∈ infixRules) (h2 : o2 ∈ infixRules) :
    expectedPair o1 o2 = some (if leftFirst o1 o2 then .bin (.bin (.prim a) (op o1) (.prim b)) (op o2) (.prim c)
      else .bin (.prim a) (op o1) (.bin (.prim b) (op o2) (.prim c))) := by
  simp only [expectedPair, (infix_rows o1 h1).2.2.2, (infix_rows o2 h2).2.2.2, leftFirst]
  exact (apply_ite some ..).symm

theorem pair_grouping :
    ∀ o1 ∈ infixRules, ∀ o2 ∈ infixRules,
      (expectedPair o1 o2).isSome = true ∧
      some (parse T [a, op o1, b, op o2, c]) = (expectedPair o1 o2).map Res.ok := by
  intro o1 h1 o2 h2
  have hal : altP T [a, op o1, b, op o2, c] = true := by simp [altP, altO, operands_prim, infixPrec_isSome, h1, h2]
  rw [expectedPair_eq h1 h2]
  refine ⟨rfl, congrArg some ?_⟩
  cases h : leftFirst o1 o2 <;> simp only [if_true, if_false, Bool.false_eq_true] <;>
    refine parser_chain_unique _ hal _ ?_ ?_ rfl
  · simp [WFT, operands_prim, infixPrec_isSome, h1, h2]
  · exact ⟨trivial, ⟨trivial, trivial, leftOk_prim _ _ _, rightOk_prim _ _ _⟩, leftOk_prim _ _ _,
      rightOk_of_not_leftFirst h1 h2 h _ _⟩
  · simp [WFT, operands_prim, infixPrec_isSome, h1, h2]
  · exact ⟨⟨trivial, trivial, leftOk_prim _ _ _, rightOk_prim _ _ _⟩, trivial,
      leftOk_of_leftFirst h1 h2 h _ _, rightOk_prim _ _ _⟩

/-- assignments group right to left -/
theorem assign_right_assoc :
    ∀ o1 ∈ infixRules, ∀ o2 ∈ infixRules, docLevel o1 = some (14, true) → docLevel o2 = some (14, true) →
      parse T [a, op o1, b, op o2, c] =
        .ok (.bin (.prim a) (op o1) (.bin (.prim b) (op o2) (.prim c))) := by
  intro o1 h1 o2 h2 d1 d2
  simpa [expectedPair, d1, d2] using (pair_grouping o1 h1 o2 h2).2

/-! ## all ordered triples of binary operators group as documented -/

/-- the grouping docs/operators.md prescribes for `a o₁ b o₂ c o₃ d`, by case analysis on which
    adjacent operator wins each operand (five binary tree shapes) -/
def expectedTriple (o1 o2 o3 : String) : Tree :=
  let A := Tree.prim a; let B := Tree.prim b; let C := Tree.prim c; let D := Tree.prim d
  if leftFirst o1 o2 then
    if leftFirst o2 o3 then .bin (.bin (.bin A (op o1) B) (op o2) C) (op o3) D
    else .bin (.bin A (op o1) B) (op o2) (.bin C (op o3) D)
  else
    if leftFirst o2 o3 then
      if leftFirst o1 o3 then .bin (.bin A (op o1) (.bin B (op o2) C)) (op o3) D
      else .bin A (op o1) (.bin (.bin B (op o2) C) (op o3) D)
    else .bin A (op o1) (.bin B (op o2) (.bin C (op o3) D))

theorem expectedTriple_pc {o1 o2 o3 : String} (h1 : o1 ∈ infixRules) (h2 : o2 ∈ infixRules) (h3 : o3 ∈ infixRules) :
    PC T (expectedTriple o1 o2 o3) := by
  have leaf : ∀ x y o, PC T (.bin (.prim x) o (.prim y)) := fun _ _ _ => ⟨trivial, trivial, leftOk_prim _ _ _, rightOk_prim _ _ _⟩
  unfold expectedTriple
  cases h12 : leftFirst o1 o2 <;> cases h23 : leftFirst o2 o3 <;> simp only [if_true, if_false, Bool.false_eq_true]
  · exact ⟨trivial, ⟨trivial, leaf _ _ _, leftOk_prim _ _ _, rightOk_of_not_leftFirst h2 h3 h23 _ _⟩, leftOk_prim _ _ _,
      rightOk_of_not_leftFirst h1 h2 h12 _ _⟩
  · cases h13 : leftFirst o1 o3 <;> simp only [if_true, if_false, Bool.false_eq_true]
    · exact ⟨trivial, ⟨leaf _ _ _, trivial, leftOk_of_leftFirst h2 h3 h23 _ _, rightOk_prim _ _ _⟩, leftOk_prim _ _ _,
        rightOk_of_not_leftFirst h1 h3 h13 _ _⟩
    · exact ⟨⟨trivial, leaf _ _ _, leftOk_prim _ _ _, rightOk_of_not_leftFirst h1 h2 h12 _ _⟩, trivial,
        leftOk_of_leftFirst h1 h3 h13 _ _, rightOk_prim _ _ _⟩
  · exact ⟨leaf _ _ _, leaf _ _ _, leftOk_of_leftFirst h1 h2 h12 _ _, rightOk_of_not_leftFirst h2 h3 h23 _ _⟩
  · exact ⟨⟨leaf _ _ _, trivial, leftOk_of_leftFirst h1 h2 h12 _ _, rightOk_prim _ _ _⟩, trivial,
      leftOk_of_leftFirst h2 h3 h23 _ _, rightOk_prim _ _ _⟩

theorem triple_grouping :
    infixRules.all (fun o1 => infixRules.all (fun o2 => infixRules.all (fun o3 =>
      decide (parse T [a, op o1, b, op o2, c, op o3, d] = .ok (expectedTriple o1 o2 o3))))) = true := by
  simp only [List.all_eq_true, decide_eq_true_eq]
  intro o1 h1 o2 h2 o3 h3
  have hal : altP T [a, op o1, b, op o2, c, op o3, d] = true := by simp [altP, altO, operands_prim, infixPrec_isSome, h1, h2, h3]
  refine parser_chain_unique _ hal _ ?_ (expectedTriple_pc h1 h2 h3) ?_
  · unfold expectedTriple
    cases leftFirst o1 o2 <;> cases leftFirst o2 o3 <;> cases leftFirst o1 o3 <;>
      simp [WFT, operands_prim, infixPrec_isSome, h1, h2, h3]
  · unfold expectedTriple
    cases leftFirst o1 o2 <;> cases leftFirst o2 o3 <;> cases leftFirst o1 o3 <;> rfl

/-- each prefix operator binds tighter than each binary operator: `p a o b = (p a) o b` -/
theorem prefix_vs_infix :
    ∀ p ∈ prefixRules, ∀ o ∈ infixRules,
      parse T [op p, a, op o, b] = .ok (.bin (.pre (op p) (.prim a)) (op o) (.prim b)) := by
  intro p hp o ho
  obtain ⟨eo, h2, hn, _⟩ := infix_rows o ho
  exact parse_prefix_infix ident_prim ident_prim (rows.2.1 p hp) eo (precOf_pos hn) ((precOf_lt hn two_le_levels).mpr h2)

/-- level-1 postfix forms (index, slice, call, tuple/field access, `? type`) bind tighter than a
    prefix operator; the level-3 postfix forms (reducers, `~`, `$]`) bind looser -/
theorem prefix_vs_postfix :
    ∀ p ∈ prefixRules, ∀ q ∈ postfixRules,
      parse T [op p, a, op q] =
        (match docLevel q with
         | some (1, _) => .ok (.pre (op p) (.post (.prim a) (op q)))
         | _ => .ok (.post (.pre (op p) (.prim a)) (op q))) := by
  intro p hp q hq
  obtain ⟨eq, hl, hn, dq, _⟩ := rows.2.2.1 q hq
  rw [parse_prefix_postfix (x := a) (p := op p) (q := op q) ident_prim (rows.2.1 p hp) eq (precOf_pos hn), dq]
  simp only [precOf_pred_lt two_le_levels hn]
  rcases hl with h1 | h2
  · rw [h1]; rfl
  · rw [if_neg (Nat.not_le_of_lt h2)]
    split
    · next e =>
      simp only [Option.some.injEq, Prod.mk.injEq] at e
      omega
    · rfl

/-- a postfix form after a binary operation: level-1 forms attach to the right operand, level-3
    forms attach according to the precedence of the binary operator -/
theorem infix_vs_postfix :
    ∀ o ∈ infixRules, ∀ q ∈ postfixRules,
      parse T [a, op o, b, op q] =
        (match docLevel q, docLevel o with
         | some (lq, _), some (lo, _) =>
           if lq < lo then .ok (.bin (.prim a) (op o) (.post (.prim b) (op q)))
           else .ok (.post (.bin (.prim a) (op o) (.prim b)) (op q))
         | _, _ => .fuel) := by
  intro o ho q hq
  obtain ⟨eo, _, hno, dO⟩ := infix_rows o ho
  obtain ⟨eq, _, hnq, dq, hra⟩ := rows.2.2.1 q hq
  rw [parse_infix_postfix (x := a) (o := op o) (y := b) (q := op q) ident_prim ident_prim eo eq (precOf_pos hno)
    (precOf_pos hnq), dq, dO]
  -- on a level shared with a postfix operator the binary operator is left-associative
  have h : rbpOf (precOf (lvl o)) (rassoc o) < precOf (lvl q) ↔ lvl q < lvl o := by
    cases hr : rassoc o
    · exact precOf_lt hno hnq
    · refine (precOf_pred_lt hno hnq).trans ⟨fun h => Nat.lt_of_le_of_ne h fun e => ?_, Nat.le_of_lt⟩
      rw [hra o ho e.symm] at hr; cases hr
  simp only [h]
  exact apply_ite Res.ok ..

/-! ## multi-character operators are never split -/

/-- in an ordered choice an earlier alternative must not be a proper prefix of a later one
    (PEG would commit to the shorter token) -/
def noSplit (alts : List (String × String)) : Bool :=
  (alts.zipIdx).all fun (x, i) => (alts.zipIdx).all fun (y, j) =>
    !(i < j && x.2 != "" && x.2 != y.2 && x.2.toList.isPrefixOf y.2.toList)

theorem no_split_bin : noSplit Gen.binOpAlts = true := by decide +kernel

/-- `[`-, `.`- and `?`-introduced postfix forms share a first character and are told apart by what
    follows, so they are exempt; the `$…` reducers must be ordered longest first -/
theorem no_split_postfix :
    noSplit (Gen.postfixOpAlts.filter (fun x => x.2.toList.head? == some '$')) = true := by decide +kernel

/-- postfix forms are tried before binary operators (`atom = prefix_op? primary postfix_op*`), so
    no binary operator literal may be a proper prefix of a `$`-reducer except `$` itself, which is
    `reduce` and is tried only after the postfix alternatives fail -/
theorem reducers_before_reduce :
    (Gen.binOpAlts.filter (fun x => x.2.toList.head? == some '$')).map (·.1) = ["reduce"] := by decide +kernel

/-- every infix rule except `reduce` is mapped to a distinct `BinOperator` whose display text is
    the grammar literal of the rule -/
theorem binop_map_total_injective :
    (infixRules.filter (· != "reduce")).all (fun r =>
      match List.lookup r Gen.ruleToBinOp with
      | some v => (List.lookup v Gen.binOperators) == List.lookup r Gen.binOpAlts
      | none => false) = true ∧
    (Gen.ruleToBinOp.map (·.2)).Nodup ∧ (Gen.ruleToBinOp.map (·.1)).Nodup := by decide +kernel

/-! ## the pinned third-party algorithm -/
theorem pest_pinned :
    Gen.pestVersion = "2.7.14" ∧
    Gen.prattParserSha256 = "81840653126031e4f069fab09a6d0773c59defc4c9686f4c50a7d08dcb52251f" :=
  ⟨rfl, rfl⟩

/-! ## non-vacuity -/
example : infixRules.length = 35 ∧ prefixRules.length = 3 ∧ postfixRules.length = 14 := by decide
example : expectedPair "add" "multiply" =
    some (.bin (.prim a) (op "add") (.bin (.prim b) (op "multiply") (.prim c))) := by decide +kernel

end Ssl.C14
