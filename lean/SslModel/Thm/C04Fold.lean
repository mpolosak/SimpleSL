import SslModel.Lemmas.FoldSim
import SslModel.Lemmas.NoCtl
import SslModel.Thm.C04FoldPost
/-!
# C04 — the folding pass as a whole preserves the reference semantics

`Model/Fold.lean` models the constant folding / constant propagation pass of the implementation
(tied to it by the `fold-model` stream of C04: the implementation's folded instruction trees against
the model's answer).  This file proves that whenever the model answers a folded program, the folded
program behaves exactly like the original one under the reference semantics `Spec`: in every
environment that agrees with the constants the pass has recorded (`EnvOk`), for every store and every amount
of fuel, an evaluation of the original that does not run out of fuel ends — same value, same store,
same error or signal — exactly as the folded program does with enough fuel (`Sim`).

By induction on the fuel of the original evaluation, one statement per evaluator function (`FoldAt`); `fold_<form>` is the
case of that expression form, `FoldAt_succ` collects them.  What the pass answers, evaluation apart, is `Thm/C04FoldPost`.
-/
namespace Ssl.Fold
open Ssl Ssl.Spec

/-- the environment agrees with what the pass has recorded: a name recorded as the constant `c` is
    bound to the value of `c` -/
def EnvOk (g : CEnv) (env : Env) : Prop :=
  ∀ x c cr, g.lookup x = some (some c, cr) → isConst c = true ∧ env.lookup x = some (valOf c)

theorem envOk_push {g : CEnv} {env : Env} (h : EnvOk g env) : EnvOk g ([] :: env) :=
  fun x c cr hl => h x c cr hl

theorem envOk_cons {g : CEnv} {env env' : Env} (h : EnvOk g env) (x : String) (co : Option Expr) (cr : Bool)
    (hx : ∀ c, co = some c → isConst c = true ∧ env'.lookup x = some (valOf c))
    (hy : ∀ y, (x == y) = false → env'.lookup y = env.lookup y) : EnvOk ((x, co, cr) :: g) env' := by
  intro y c cr' hl
  simp only [CEnv.lookup] at hl
  by_cases hxy : (x == y) = true
  · simp only [hxy, if_true, Option.some.injEq, Prod.mk.injEq] at hl
    have : x = y := by simpa using hxy
    exact this ▸ hx c hl.1
  · simp only [hxy, if_false, Bool.false_eq_true] at hl
    rw [hy y (by simpa using hxy)]
    exact h y c cr' hl

theorem envOk_insert {g : CEnv} {env : Env} (h : EnvOk g env) (x : String) (v : Val) (co : Option Expr) (cr : Bool)
    (hco : ∀ c, co = some c → isConst c = true ∧ v = valOf c) : EnvOk ((x, co, cr) :: g) (env.insert x v) :=
  envOk_cons h x co cr
    (fun c hc => ⟨(hco c hc).1, by rw [lookup_insert_same, (hco c hc).2]⟩)
    (fun y hy => lookup_insert_other env x y v hy)

theorem envOk_bind {g : CEnv} {env : Env} (h : EnvOk g env) (x : String) (v : Val) :
    EnvOk ((x, none, false) :: g) ([(x, v)] :: env) :=
  envOk_cons h x none false (fun _ hc => nomatch hc) (fun y hy => lookup_inner_frame_other env x y v hy)

theorem envOk_bind2 {g : CEnv} {env : Env} (h : EnvOk g env) (x y : String) (v w : Val) :
    EnvOk ((x, none, false) :: (y, none, false) :: g) ([(x, v), (y, w)] :: env) :=
  envOk_cons (envOk_bind h y w) x none false (fun _ hc => nomatch hc)
    (fun z hz => by simp only [Env.lookup, frameLookup, hz, Bool.false_eq_true, if_false])

theorem gconst_of_envOk {g : CEnv} {env : Env} (h : EnvOk g env) : GConst g :=
  fun x c cr hl => (h x c cr hl).1

/-! ### the constructs the theorem below covers -/
mutual
def covered : Expr → Bool
  | .litBool _ | .litInt _ | .litFloat _ | .litStr _ | .litUnit | .var _ | .brk | .cont => true
  | .array es => coveredL es
  | .tuple es => coveredL es
  | .arrayRepeat v n => covered v && covered n
  | .struct fs => coveredF fs
  | .mutE _ e => covered e
  | .pre _ e => covered e
  | .and a b => covered a && covered b
  | .or a b => covered a && covered b
  | .bin _ a b => covered a && covered b
  | .assign _ t v => covered t && covered v
  | .at a i => covered a && covered i
  | .slice a s e st => covered a && coveredO s && coveredO e && coveredO st && !(s.isNone && e.isNone && st.isNone)
  | .call f args => covered f && coveredL args
  | .tacc e _ => covered e
  | .facc e _ => covered e
  | .tfilter e _ => covered e
  | .post _ e => covered e
  | .reduce it init f => covered it && covered init && covered f
  | .ifElse c t e => covered c && covered t && coveredO e
  | .ret e => coveredO e
  | .block body => coveredS body
  | .ifSet _ _ e body els => covered e && covered body && coveredO els
  | .matchE e arms => covered e && coveredA arms
  | .loop body => covered body
  | .while c body => condForm c && covered c && covered body
  | .whileSet _ _ e body => covered e && covered body
  | .forE _ it body => covered it && covered body
  | _ => false
def coveredA : List Arm → Bool
  | [] => true
  | .ty _ _ body :: rest => covered body && coveredA rest
  | .val cands body :: rest => coveredL cands && covered body && coveredA rest
  | .other body :: rest => covered body && coveredA rest
/-- statement lists: `x := e`, tuple destructuring and plain statements; no function declarations -/
def coveredS : List Expr → Bool
  | [] => true
  | .set _ e :: rest => covered e && coveredS rest
  | .destruct _ e :: rest => covered e && coveredS rest
  | s :: rest => covered s && coveredS rest
def coveredO : Option Expr → Bool
  | none => true
  | some e => covered e
def coveredL : List Expr → Bool
  | [] => true
  | e :: es => covered e && coveredL es
def coveredF : List (String × Expr) → Bool
  | [] => true
  | (_, e) :: es => covered e && coveredF es
end

/-- the statements proved together, for one amount of fuel of the original program -/
structure FoldAt (f : Nat) : Prop where
  eval : ∀ g env e e', covered e = true → EnvOk g env → fold g e = .ok e' →
    Sim (eval f env e) (fun f' => eval f' env e')
  evalOpt : ∀ g env e e', coveredO e = true → EnvOk g env → foldOpt g e = .ok e' →
    Sim (evalOpt f env e) (fun f' => evalOpt f' env e')
  evalList : ∀ g env es es', coveredL es = true → EnvOk g env → foldList g es = .ok es' →
    Sim (evalList f env es) (fun f' => evalList f' env es')
  evalFields : ∀ g env fs fs', coveredF fs = true → EnvOk g env → foldFields g fs = .ok fs' →
    Sim (evalFields f env fs) (fun f' => evalFields f' env fs')
  evalStmtValue : ∀ g env e e', covered e = true → EnvOk g env → fold g e = .ok e' →
    Sim (evalStmtValue f env e) (fun f' => evalStmtValue f' env e')
  evalSeq : ∀ blk g env ss ss' g', coveredS ss = true → EnvOk g env → foldSeq blk g ss = .ok (ss', g') →
    Sim (evalSeq f env ss) (fun f' => evalSeq f' env ss')
  evalArms : ∀ g env v arms arms', coveredA arms = true → EnvOk g env → foldArms g arms = .ok arms' →
    Sim (evalArms f env v arms) (fun f' => evalArms f' env v arms')
  candGo : ∀ g env v cs cs', coveredL cs = true → EnvOk g env → foldList g cs = .ok cs' →
    Sim (candGo f env v cs) (fun f' => candGo f' env v cs')
  bodyOnce : ∀ g env b b', covered b = true → EnvOk g env → fold g b = .ok b' →
    Sim (bodyOnce f env b) (fun f' => bodyOnce f' env b')
  loopGo : ∀ g env b b', covered b = true → EnvOk g env → fold g b = .ok b' →
    Sim (loopGo f env b) (fun f' => loopGo f' env b')
  whileSetGo : ∀ g env x ty e e' b b', covered e = true → covered b = true → EnvOk g env → fold g e = .ok e' →
    fold ((x, none, false) :: g) b = .ok b' →
    Sim (whileSetGo f env x ty e b) (fun f' => whileSetGo f' env x ty e' b')
  forGo : ∀ g env x itv b b', covered b = true → EnvOk g env →
    fold ((x, none, false) :: ("$con", none, false) :: g) b = .ok b' →
    Sim (forGo f env x itv b) (fun f' => forGo f' env x itv b')

theorem FoldAt_zero : FoldAt 0 := by
  -- without fuel every function of the block is `throwS .fuel`, by its first equation
  constructor <;> intros <;> exact Sim.fuel _

/-- the optional operand of `return` and the optional `else` of `if` / `if x: T = e`, where absent means `()` -/
theorem sim_orUnit {f : Nat} (ih : FoldAt f) {g : CEnv} {env : Env} {o o' : Option Expr} (hc : coveredO o = true)
    (henv : EnvOk g env) (hf : foldOpt g o = .ok o') :
    Sim (match (generalizing := false) o with
        | some e => eval f env e
        | none => pure .unit)
      (fun f' => match (generalizing := false) o' with
        | some e => eval f' env e
        | none => pure .unit) := by
  cases o with
  | none => cases hf; exact Sim.const _
  | some e =>
    obtain ⟨e2, he2, hf⟩ := R.bind_ok hf
    cases hf
    exact ih.eval g env e e2 hc henv he2

/-- a side condition of an induction hypothesis: in the context, a conjunct of `hc`, or `henv` under the one or two
    names a binder declares (not hygienic: `hc` and `henv` are the call site's) -/
syntax "side_cond" : tactic
set_option hygiene false in
macro_rules
  | `(tactic| side_cond) => `(tactic| first | assumption | (simp only [hc]; done) | exact envOk_bind henv _ _ | exact envOk_bind2 henv _ _ _ _)

/-- one step of a simulation between two evaluations of the same shape, ordered like `mono_step` (Lemmas/Mono):
    equal sides, the continuation of a bind and the bind itself first, then the recursive calls, then what the pass
    does not touch (calls and the iterator loops, by monotonicity) -/
syntax "sim_step" ident : tactic
macro_rules
  | `(tactic| sim_step $ih:ident) => `(tactic| first
      | with_reducible apply Sim.const
      | intro _
      | with_reducible apply Sim.bind
      | (with_reducible apply ($ih).eval <;> side_cond)
      | (with_reducible apply ($ih).evalList <;> side_cond)
      | (with_reducible apply ($ih).evalOpt <;> side_cond)
      | (with_reducible apply ($ih).evalFields <;> side_cond)
      | (with_reducible apply ($ih).evalStmtValue <;> side_cond)
      | (with_reducible apply ($ih).evalArms <;> side_cond)
      | (with_reducible apply ($ih).candGo <;> side_cond)
      | (with_reducible apply ($ih).bodyOnce <;> side_cond)
      | (with_reducible apply ($ih).loopGo <;> side_cond)
      | (with_reducible apply ($ih).whileSetGo <;> side_cond)
      | (with_reducible apply ($ih).forGo <;> side_cond)
      | (apply sim_orUnit $ih <;> side_cond)
      | (with_reducible apply Sim.tryCatch <;> first | exact fun _ => Sim.const _ | rfl | skip)
      | with_reducible exact Sim.of_monoAt (·.callFn _ _) _
      | with_reducible exact Sim.of_monoAt (·.partitionGo _ _ _ _) _
      | with_reducible exact Sim.of_monoAt (·.collectGo _ _) _
      | with_reducible exact Sim.of_monoAt (·.reduceGo _ _ _) _
      | with_reducible exact Sim.of_monoAt (·.boolGo _ _) _
      | with_reducible apply Sim.fuel
      | (split <;> try simp only [])
      )

syntax "sim_auto" ident : tactic
macro_rules
  | `(tactic| sim_auto $ih:ident) => `(tactic| repeat (any_goals (sim_step $ih)))

attribute [local irreducible] Sim

/-- every case in which the folded form is rebuilt from the folded operands (a literal and an empty list are rebuilt
    from none); not hygienic: it works on the call site's `hf` (the equation of the folding function, unfolded), `hc` (the
    operands are covered) and `henv` -/
syntax "structural" ident : tactic
set_option hygiene false in
macro_rules
  | `(tactic| structural $ih:ident) => `(tactic| (
      repeat (with_reducible obtain ⟨_, _, hf⟩ := R.bind_ok hf)
      simp only [Except.ok.injEq] at hf
      subst hf
      simp only [covered, coveredO, coveredL, coveredF, coveredA, Bool.and_eq_true] at hc
      apply Sim.shift
      simp only [eval, evalOpt, evalList, evalFields, evalArms, candGo]
      sim_auto $ih))

theorem fold_var (f : Nat) (g : CEnv) (env : Env) (x : String) (e' : Expr)
    (henv : EnvOk g env) (hf : fold g (.var x) = .ok e') :
    Sim (eval (f + 1) env (.var x)) (fun f' => eval f' env e') := by
  rw [fold_var_eq] at hf
  split at hf
  · next c cr hl =>
    obtain ⟨hc, hv⟩ := henv x c cr hl
    cases hf
    exact sim_const hc (pure_var hv _)
  · cases hf
    exact Sim.of_monoAt (·.eval _ _) _

theorem fold_pre (f : Nat) (ih : FoldAt f) (g : CEnv) (env : Env) (op : PreOp) (a e' : Expr)
    (hc : covered (.pre op a) = true) (henv : EnvOk g env) (hf : fold g (.pre op a) = .ok e') :
    Sim (eval (f + 1) env (.pre op a)) (fun f' => eval f' env e') := by
  obtain ⟨a', ha, hf⟩ := R.bind_ok hf
  simp only [covered] at hc
  have hs := ih.eval g env a a' hc henv ha
  rcases foldPre_ok hf with ⟨hop, hca, hf⟩ | rfl
  · obtain ⟨v, hv, hce, rfl⟩ := ofExec_ok hf
    apply sim_const hce
    rw [eval_pre_scalar _ _ _ _ hop]
    exact Pure.bind (pure_of_sim hs hca) (pure_liftE hv)
  · apply Sim.shift
    cases op <;> (simp only [eval]; sim_auto ih)

theorem fold_and (f : Nat) (ih : FoldAt f) (g : CEnv) (env : Env) (a b e' : Expr)
    (hc : covered (.and a b) = true) (henv : EnvOk g env) (hf : fold g (.and a b) = .ok e') :
    Sim (eval (f + 1) env (.and a b)) (fun f' => eval f' env e') := by
  obtain ⟨a', ha, hf⟩ := R.bind_ok hf
  simp only [covered, Bool.and_eq_true] at hc
  have hs := ih.eval g env a a' hc.1 henv ha
  rw [eval_and]
  split at hf
  · exact sim_cond hs (ih.eval g env b e' hc.2 henv hf)
  · cases hf; exact sim_cond hs (sim_litBool false env)
  · split at hf
    · simp [unsup] at hf
    · obtain ⟨b', hb, hf⟩ := R.bind_ok hf
      cases hf
      refine Sim.shift ?_
      simp only [eval_and]
      exact sim_test hs fun x => by cases x <;> first | exact Sim.const _ | exact ih.eval g env b b' hc.2 henv hb

theorem fold_or (f : Nat) (ih : FoldAt f) (g : CEnv) (env : Env) (a b e' : Expr)
    (hc : covered (.or a b) = true) (henv : EnvOk g env) (hf : fold g (.or a b) = .ok e') :
    Sim (eval (f + 1) env (.or a b)) (fun f' => eval f' env e') := by
  obtain ⟨a', ha, hf⟩ := R.bind_ok hf
  simp only [covered, Bool.and_eq_true] at hc
  have hs := ih.eval g env a a' hc.1 henv ha
  rw [eval_or]
  split at hf
  · cases hf; exact sim_cond hs (sim_litBool true env)
  · exact sim_cond hs (ih.eval g env b e' hc.2 henv hf)
  · split at hf
    · simp [unsup] at hf
    · obtain ⟨b', hb, hf⟩ := R.bind_ok hf
      cases hf
      refine Sim.shift ?_
      simp only [eval_or]
      exact sim_test hs fun x => by cases x <;> first | exact Sim.const _ | exact ih.eval g env b b' hc.2 henv hb

theorem foldsConst_scalar {op : BinOp} (h : foldsConst op = true) : isIterOp op = false := by
  cases op <;> first | rfl | (cases h; done)

theorem fold_bin (f : Nat) (ih : FoldAt f) (g : CEnv) (env : Env) (op : BinOp) (a b e' : Expr)
    (hc : covered (.bin op a b) = true) (henv : EnvOk g env) (hf : fold g (.bin op a b) = .ok e') :
    Sim (eval (f + 1) env (.bin op a b)) (fun f' => eval f' env e') := by
  obtain ⟨a', ha, hf⟩ := R.bind_ok hf
  obtain ⟨b', hb, hf⟩ := R.bind_ok hf
  simp only [covered, Bool.and_eq_true] at hc
  have hsa := ih.eval g env a a' hc.1 henv ha
  have hsb := ih.eval g env b b' hc.2 henv hb
  have hstruct : Sim (eval (f + 1) env (.bin op a b)) (fun f' => eval f' env (.bin op a' b')) := by
    apply Sim.shift
    by_cases hop : isIterOp op = false
    · simp only [Spec.eval_bin_scalar _ _ _ _ _ hop]
      exact Sim.bind hsa fun _ => Sim.bind hsb fun _ => Sim.const _
    · cases op
      case map | filter | partition => simp only [eval]; sim_auto ih
      all_goals exact absurd rfl hop
  rcases foldBin_ok hf with ⟨hop, hca, hcb, hf⟩ | rfl
  · obtain ⟨v, hv, hce, rfl⟩ := ofExec_ok hf
    apply sim_const hce
    rw [Spec.eval_bin_scalar _ _ _ _ _ (foldsConst_scalar hop)]
    exact Pure.bind (pure_of_sim hsa hca) (Pure.bind (pure_of_sim hsb hcb) (pure_liftE hv))
  · exact hstruct

theorem fold_at (f : Nat) (ih : FoldAt f) (g : CEnv) (env : Env) (a i e' : Expr)
    (hc : covered (.at a i) = true) (henv : EnvOk g env) (hf : fold g (.at a i) = .ok e') :
    Sim (eval (f + 1) env (.at a i)) (fun f' => eval f' env e') := by
  obtain ⟨a', ha, hf⟩ := R.bind_ok hf
  obtain ⟨i', hi, hf⟩ := R.bind_ok hf
  simp only [covered, Bool.and_eq_true] at hc
  have hsa := ih.eval g env a a' hc.1 henv ha
  have hsi := ih.eval g env i i' hc.2 henv hi
  rcases foldAt_ok hf with ⟨es, k, j, rfl, rfl, hcl, hj, hcj⟩ | ⟨s, k, rfl, rfl, hf⟩ | rfl
  · have hca : isConst (.array es) = true := by simp only [isConst, hcl]
    apply sim_const (isConstL_get es j _ hcl hcj)
    simp only [eval]
    refine Pure.bind (pure_of_sim hsa hca) (Pure.bind (pure_of_sim hsi rfl) (pure_liftE ?_))
    simp only [valOf, Val.mkArray, atVal, valOfL_eq_map, List.length_map]
    simp only [i64] at hj
    rw [hj]
    simp only [List.getElem?_map, hcj, Option.map_some]
  · obtain ⟨v, hv, hce, rfl⟩ := ofExec_ok hf
    apply sim_const hce
    simp only [eval]
    exact Pure.bind (pure_of_sim hsa rfl) (Pure.bind (pure_of_sim hsi rfl) (pure_liftE hv))
  · exact Sim.shift (by simp only [eval]; exact Sim.bind hsa fun _ => Sim.bind hsi fun _ => Sim.const _)

theorem fold_ifElse (f : Nat) (ih : FoldAt f) (g : CEnv) (env : Env) (c t : Expr) (e : Option Expr) (e' : Expr)
    (hc : covered (.ifElse c t e) = true) (henv : EnvOk g env) (hf : fold g (.ifElse c t e) = .ok e') :
    Sim (eval (f + 1) env (.ifElse c t e)) (fun f' => eval f' env e') := by
  simp only [covered, Bool.and_eq_true] at hc
  obtain ⟨⟨hc1, hc2⟩, hc3⟩ := hc
  have generic : ∀ c' t' eo', fold g c = .ok c' → fold g t = .ok t' → foldOpt g e = .ok eo' →
      Sim (eval (f + 1) env (.ifElse c t e)) (fun f' => eval f' env (.ifElse c' t' eo')) := by
    intro c' t' eo' hcc ht he
    refine Sim.shift ?_
    simp only [eval_ifElse]
    refine sim_test (ih.eval g env c c' hc1 henv hcc) fun x => ?_
    cases x
    · exact sim_orUnit ih hc3 henv he
    · exact ih.eval g env t t' hc2 henv ht
  cases e <;> simp only [fold] at hf <;> obtain ⟨c', hcc, hf⟩ := R.bind_ok hf <;>
    have hs := ih.eval g env c c' hc1 henv hcc <;> split at hf
  · rw [eval_ifElse]; exact sim_cond hs (ih.eval g env t e' hc2 henv hf)
  · cases hf; rw [eval_ifElse]; exact sim_cond hs (sim_const (c := .litUnit) rfl (Pure.pure _))
  · obtain ⟨t', ht, hf⟩ := R.bind_ok hf
    obtain ⟨eo', he, hf⟩ := R.bind_ok hf
    cases hf; exact generic _ _ _ hcc ht he
  · rw [eval_ifElse]; exact sim_cond hs (ih.eval g env t e' hc2 henv hf)
  · rw [eval_ifElse]; exact sim_cond hs (ih.eval g env _ e' hc3 henv hf)
  · obtain ⟨t', ht, hf⟩ := R.bind_ok hf
    obtain ⟨eo', he, hf⟩ := R.bind_ok hf
    cases hf; exact generic _ _ _ hcc ht he

theorem fold_arrayRepeat (f : Nat) (ih : FoldAt f) (g : CEnv) (env : Env) (v n e' : Expr)
    (hc : covered (.arrayRepeat v n) = true) (henv : EnvOk g env) (hf : fold g (.arrayRepeat v n) = .ok e') :
    Sim (eval (f + 1) env (.arrayRepeat v n)) (fun f' => eval f' env e') := by
  obtain ⟨v', hv, hf1⟩ := R.bind_ok hf
  obtain ⟨n', hn, hf2⟩ := R.bind_ok hf1
  clear hf hf1
  simp only [covered, Bool.and_eq_true] at hc
  obtain ⟨hc1, hc2⟩ := hc
  have hstruct : Sim (eval (f + 1) env (.arrayRepeat v n)) (fun f' => eval f' env (.arrayRepeat v' n')) := by
    apply Sim.shift
    simp only [eval]
    sim_auto ih
  split at hf2
  · split at hf2
    · simp at hf2
    · split at hf2
      · simp [unsup] at hf2
      · cases hf2; exact hstruct
  · cases hf2; exact hstruct

theorem fold_block (f : Nat) (ih : FoldAt f) (g : CEnv) (env : Env) (body : List Expr) (e' : Expr)
    (hc : covered (.block body) = true) (henv : EnvOk g env) (hf : fold g (.block body) = .ok e') :
    Sim (eval (f + 1) env (.block body)) (fun f' => eval f' env e') := by
  obtain ⟨⟨body', g'⟩, hb, hf2⟩ := R.bind_ok hf
  cases hf2
  simp only [covered] at hc
  apply Sim.shift
  simp only [eval]
  refine Sim.bind (ih.evalSeq true g ([] :: env) body body' g' hc (envOk_push henv) hb) (fun a => Sim.const _)

theorem pure_while_false (env : Env) (c body : Expr) (f : Nat)
    (hcond : ∀ k, k ≤ f → Pure (eval k env c) (.bool false)) : Pure (whileGo f env c body) .unit := by
  cases f with
  | zero => exact Pure.fuel _
  | succ f =>
    simp only [whileGo]
    exact pure_of_le (Pure.cond_le (hcond f (Nat.le_succ f)))

/-- a statement that was a constant when the tree was first built evaluates to a value without
    touching the store, whatever the fuel (or runs out of it) -/
theorem crConst_pure (g : CEnv) (env : Env) (s : Expr) (henv : EnvOk g env) (h : crConst g s = true) :
    isDecl s = false ∧ ∃ v, ∀ k, Pure (eval k env s) v := by
  unfold crConst crVal at h
  split at h
  · next y =>
    split at h
    · next c hl => exact ⟨rfl, valOf c, pure_var (henv y c true hl).2⟩
    · simp at h
  · next c body =>
    have hcf : ∀ k, Pure (eval k env c) (.bool false) := by
      split at h
      · exact pure_const (c := .litBool false) rfl env
      · next y =>
        split at h
        · next hl => exact pure_var (henv y _ true hl).2
        · simp at h
      · simp at h
    refine ⟨rfl, .unit, fun k => ?_⟩
    cases k with
    | zero => exact Pure.fuel _
    | succ k => simp only [eval]; exact pure_while_false env c body k fun j _ => hcf j
  · split at h
    · next hl => exact ⟨isDecl_of_const s (isConst_of_creationLit hl), valOf s, pure_const (isConst_of_creationLit hl) env⟩
    · simp at h

theorem sim_stmt_plain (f : Nat) (ih : FoldAt f) (g : CEnv) (env : Env) (s s' : Expr)
    (hd : isDecl s = false) (hc : covered s = true) (henv : EnvOk g env) (hf : fold g s = .ok s') :
    Sim (evalStmt (f + 1) env s) (fun f' => evalStmt f' env s') ∧
      Post (evalStmt (f + 1) env s) (fun r => EnvOk g r.2) := by
  have hd' := fold_notDecl s g s' (gconst_of_envOk henv) hf
  constructor
  · apply Sim.shift
    simp only [evalStmt_notDecl _ _ _ hd, evalStmt_notDecl _ _ _ hd']
    exact Sim.bind (ih.eval g env s s' hc henv hf) (fun a => Sim.const _)
  · rw [evalStmt_notDecl _ _ _ hd]
    exact Post.bind (fun a => Post.pure henv)

theorem sim_stmt_set (f : Nat) (ih : FoldAt f) (g : CEnv) (env : Env) (x : String) (e e' : Expr) (cr : Bool)
    (hc : covered e = true) (henv : EnvOk g env) (hf : fold g e = .ok e') :
    Sim (evalStmt (f + 1) env (.set x e)) (fun f' => evalStmt f' env (.set x e')) ∧
      Post (evalStmt (f + 1) env (.set x e)) (fun r => EnvOk ((x, constOf e', cr) :: g) r.2) := by
  have hs := ih.evalStmtValue g env e e' hc henv hf
  constructor
  · apply Sim.shift
    simp only [evalStmt]
    exact Sim.bind hs (fun a => Sim.const _)
  · simp only [evalStmt]
    by_cases hce : isConst e' = true
    · refine Post.bind2 (Post.of_sim_const (v := valOf e') hs fun σ => ?_) (fun v hv => Post.pure ?_)
      · exact Eventually.step (eval_const e' hce env σ) fun k hk => by rw [evalStmtValue_succ]; exact hk
      · exact envOk_insert henv x v _ cr (fun c hcc => by
          simp only [constOf, hce, if_true, Option.some.injEq] at hcc; subst hcc; exact ⟨hce, hv⟩)
    · refine Post.bind (fun v => Post.pure ?_)
      exact envOk_insert henv x v _ cr (fun c hcc => by simp [constOf, hce] at hcc)

/-- `ws` are the values of `es` component by component, as far as the components are constants -/
inductive ConstVals : List Expr → List Val → Prop where
  | nil : ConstVals [] []
  | cons {e : Expr} {w : Val} {es : List Expr} {ws : List Val} (h : isConst e = true → w = valOf e)
      (ht : ConstVals es ws) : ConstVals (e :: es) (w :: ws)

theorem evalList_consts : ∀ (es : List Expr) (k : Nat) (env : Env), Post (evalList k env es) (ConstVals es)
  | _, 0, _ => Post.throwS .fuel
  | [], k + 1, env => by rw [evalList_nil]; exact Post.pure .nil
  | e :: es, k + 1, env => by
    rw [evalList_cons]
    exact Post.bind2 (fun σ v σ' h hc => Post.of_pure (P := fun w => w = valOf e) (pure_const hc env k) rfl σ v σ' h) fun v hv =>
      Post.bind2 (evalList_consts es k env) fun vs hvs => Post.pure (.cons hv hvs)

/-- what the pass records for the names agrees with the values bound to them, position by position;
    names left over (the value had fewer components) are recorded as unknown -/
inductive Agree : List (String × Option Expr × Bool) → List (String × Val) → Prop where
  | rest (bs : List (String × Option Expr × Bool)) (h : ∀ b, b ∈ bs → b.2.1 = none) : Agree bs []
  | cons (x : String) (co : Option Expr) (cr : Bool) (v : Val) (bs : List (String × Option Expr × Bool))
      (xvs : List (String × Val)) (h : ∀ c, co = some c → isConst c = true ∧ v = valOf c) (ht : Agree bs xvs) :
      Agree ((x, co, cr) :: bs) ((x, v) :: xvs)

theorem envOk_binds : ∀ (bs : List (String × Option Expr × Bool)) (xvs : List (String × Val)) (g : CEnv) (env : Env),
    EnvOk g env → Agree bs xvs →
    EnvOk (bindAll bs g) (xvs.foldl (fun en (x, w) => en.insert x w) env) := by
  intro bs xvs g env henv ha
  induction ha generalizing g env with
  | rest bs hn =>
    simp only [List.foldl_nil]
    induction bs generalizing g with
    | nil => exact henv
    | cons b bs ihb =>
      obtain ⟨x, co, cr⟩ := b
      have : co = none := hn (x, co, cr) (by simp)
      subst this
      simp only [bindAll, List.foldl_cons]
      exact ihb (fun b hb => hn b (by simp [hb])) ((x, none, cr) :: g)
        (envOk_cons henv x none cr (fun _ hc => nomatch hc) (fun _ _ => rfl))
  | cons x co cr v bs xvs h ht ih =>
    simp only [bindAll, List.foldl_cons]
    exact ih (g := (x, co, cr) :: g) (env := env.insert x v) (envOk_insert henv x v co cr h)

theorem agree_unknown : ∀ (xs : List String) (vs : List Val),
    Agree (xs.map fun x => (x, none, false)) (List.zip xs vs)
  | [], vs => by simp only [List.map_nil, List.zip_nil_left]; exact Agree.rest [] (fun b hb => by simp at hb)
  | x :: xs, [] => by
    simp only [List.zip_nil_right]
    exact Agree.rest _ (fun b hb => by
      simp only [List.mem_map] at hb
      obtain ⟨y, _, rfl⟩ := hb; rfl)
  | x :: xs, v :: vs => by
    simp only [List.map_cons, List.zip_cons_cons]
    exact Agree.cons x none false v _ _ (fun c hc => by simp at hc) (agree_unknown xs vs)

theorem agree_tuple {es : List Expr} {vs : List Val} (h : ConstVals es vs) : ∀ (xs : List String) (crs : List Bool),
    es.length ≤ crs.length →
    Agree ((List.zip xs (List.zip es crs)).map fun (x, c, cr) => (x, constOf c, cr && isConst c)) (List.zip xs vs) := by
  induction h with
  | nil => intro xs crs _; simp only [List.zip_nil_left, List.zip_nil_right, List.map_nil]; exact .rest [] nofun
  | @cons e v es vs hv _ ih =>
    intro xs crs hc
    rcases xs with _ | ⟨x, xs⟩
    · simp only [List.zip_nil_left, List.map_nil]; exact .rest [] nofun
    · rcases crs with _ | ⟨cr, crs⟩
      · simp at hc
      · simp only [List.zip_cons_cons, List.map_cons]
        refine .cons x (constOf e) (cr && isConst e) v _ _ (fun c hcc => ?_) (ih xs crs (by simpa using hc))
        simp only [constOf] at hcc
        split at hcc
        · next hce => cases hcc; exact ⟨hce, hv hce⟩
        · cases hcc

theorem sim_stmt_destruct (f : Nat) (ih : FoldAt f) (g : CEnv) (env : Env) (xs : List String) (e e' : Expr)
    (hc : covered e = true) (henv : EnvOk g env) (hf : fold g e = .ok e') :
    Sim (evalStmt (f + 1) env (.destruct xs e)) (fun f' => evalStmt f' env (.destruct xs e')) ∧
      Post (evalStmt (f + 1) env (.destruct xs e)) (fun r => EnvOk (bindAll (destructBinds g xs e e') g) r.2) := by
  have hs := ih.evalStmtValue g env e e' hc henv hf
  constructor
  · apply Sim.shift
    simp only [evalStmt]
    exact Sim.bind hs (fun a => Sim.const _)
  · simp only [evalStmt]
    refine Post.bind2 (Post.of_sim hs) (fun v hv => ?_)
    obtain ⟨f', σ, σ', hev⟩ := hv
    cases v with
    | tup vs =>
      refine Post.pure ?_
      apply envOk_binds _ _ g env henv
      simp only [destructBinds]
      split
      · next es =>
        -- the folded right side is a tuple literal: its constant components are the values bound
        refine agree_tuple ?_ xs _ (by simp)
        rcases f' with _ | _ | j
        · simp [evalStmtValue, throwS] at hev
        · simp [evalStmtValue, eval, throwS] at hev
        · rw [evalStmtValue_succ, eval_tuple] at hev
          exact Post.bind2 (evalList_consts es j env) (fun ws hws => Post.pure
            (P := fun w => ∀ vs, w = Val.tup vs → ConstVals es vs) fun _ h => by cases h; exact hws) σ _ σ' hev vs rfl
      · exact agree_unknown xs vs
    | _ => exact Post.throwS _

theorem coveredS_cons (s : Expr) (rest : List Expr) (hd : isDecl s = false) :
    coveredS (s :: rest) = (covered s && coveredS rest) := by
  cases s <;> first | rfl | cases hd

theorem fold_seq (f : Nat) (ihs : ∀ k, k ≤ f → FoldAt k) : ∀ (blk : Bool) (g : CEnv) (env : Env) (ss ss' : List Expr) (g' : CEnv),
    coveredS ss = true → EnvOk g env → foldSeq blk g ss = .ok (ss', g') →
    Sim (evalSeq (f + 1) env ss) (fun f' => evalSeq f' env ss') := by
  intro blk g env ss ss' g' hc henv hf
  have ih := ihs f (Nat.le_refl f)
  cases ss with
  | nil =>
    cases hf
    exact Sim.of_monoAt (·.evalSeq env []) _
  | cons s rest =>
    have generic : ∀ (s' : Expr) (rest' : List Expr) (g1 : CEnv),
        Sim (evalStmt f env s) (fun f' => evalStmt f' env s') →
        Post (evalStmt f env s) (fun r => EnvOk g1 r.2) →
        coveredS rest = true → foldSeq blk g1 rest = .ok (rest', g') →
        Sim (evalSeq (f + 1) env (s :: rest)) (fun f' => evalSeq f' env (s' :: rest')) := by
      intro s' rest' g1 hs hp hcr hfr
      cases rest with
      | nil =>
        cases hfr
        apply Sim.shift
        simp only [evalSeq]
        exact hs
      | cons r rest2 =>
        have hne := foldSeq_ne_nil (r :: rest2) blk g1 rest' g' (List.cons_ne_nil _ _) hfr
        apply Sim.shift
        simp only [evalSeq_cons, evalSeq_cons_ne _ _ _ _ hne]
        refine Sim.bindP hs hp (fun a ha => ?_)
        exact ih.evalSeq blk g1 a.2 (r :: rest2) rest' g' hcr ha hfr
    cases f with
    | zero =>
      -- no fuel for the statement: the original runs out of fuel
      cases rest <;> simp only [evalSeq, evalStmt, throwS_bind] <;> exact Sim.fuel _
    | succ k =>
      have ihk := ihs k (Nat.le_succ k)
      by_cases hds : isDecl s = false
      · rw [coveredS_cons _ _ hds] at hc
        simp only [Bool.and_eq_true] at hc
        rw [foldSeq_plain_eq _ _ _ _ hds] at hf
        split at hf
        · next hd =>
          simp only [Bool.and_eq_true, Bool.not_eq_true', List.isEmpty_eq_false_iff] at hd
          obtain ⟨hnd, v, hv⟩ := crConst_pure g env _ henv hd.2
          refine Sim.trans_le ?_ (ih.evalSeq blk g env rest ss' g' hc.2 henv hf)
          rw [evalSeq_cons_ne _ _ _ _ hd.1.2, evalStmt_notDecl _ _ _ hnd]
          have hp : Pure (do let v ← eval k env _; pure (v, env) : M (Val × Env)) (v, env) :=
            Pure.bind (hv k) (Pure.pure _)
          exact Pure.bind_le hp
        · obtain ⟨s2, hs2, hf2⟩ := R.bind_ok hf
          obtain ⟨⟨r2, g2⟩, hr2, hf3⟩ := R.bind_ok hf2
          cases hf3
          obtain ⟨hs, hp⟩ := sim_stmt_plain k ihk g env _ s2 hds hc.1 henv hs2
          exact generic _ _ g hs hp hc.2 hr2
      · cases s <;> try (exact absurd rfl hds)
        case fndecl => cases hc
        all_goals
          simp only [coveredS, Bool.and_eq_true] at hc
          obtain ⟨e2, he2, hf2⟩ := R.bind_ok hf
          obtain ⟨⟨r2, g2⟩, hr2, hf3⟩ := R.bind_ok hf2
          cases hf3
        · obtain ⟨hs, hp⟩ := sim_stmt_set k ihk g env _ _ e2 _ hc.1 henv he2
          exact generic _ _ _ hs hp hc.2 hr2
        · obtain ⟨hs, hp⟩ := sim_stmt_destruct k ihk g env _ _ e2 hc.1 henv he2
          exact generic _ _ _ hs hp hc.2 hr2

/-! ### `while c body` becomes `loop { if c' body' else break }` -/

def loopForm (c' body' : Expr) : Expr := .ifElse c' body' (some .brk)

theorem eval_loopForm (n : Nat) (env : Env) (c' body' : Expr) :
    eval (n + 1) env (loopForm c' body') = (do
      let c ← eval n env c'
      let c ← liftE (asBool c)
      if c then eval n env body' else eval n env .brk) := by
  simp only [loopForm, eval]

theorem eval_brk (n : Nat) (env : Env) : eval (n + 1) env .brk = throwS .brk := by simp only [eval]

/-- On every run that ends neither in `fuel` nor in an escaping `break` / `continue`, `while c body` is
    `loop { if c body else break }` with two more units of fuel (the loop body and the `if`).  The exception is real:
    a `break` raised by the condition leaves a `while` but only ends the `loop`. -/
theorem while_as_loop (env : Env) (c body : Expr) : ∀ (n : Nat) (σ : St) (r : Except Sig Val × St),
    whileGo n env c body σ = r → (∀ σ', r ≠ (.error .fuel, σ')) → (∀ s σ', r = (.error s, σ') → isCtl s = false) →
    loopGo (n + 2) env (loopForm c body) σ = r
  | 0, σ, r, h, hnf, _ => absurd h.symm (hnf σ)
  | n + 1, σ, r, h, hnf, hnc => by
    simp only [whileGo] at h
    cases hc : eval n env c σ with
    | mk rc σ1 =>
      cases rc with
      | error s =>
        rw [bind_error hc] at h; subst h
        have hs := hnc s σ1 rfl
        simp only [loopGo, bodyOnce, eval_loopForm, bindM_def, tryCatchS, hc]
        cases s <;> first | (cases hs; done) | rfl
      | ok cv =>
        rw [bind_ok hc] at h
        cases hb : asBool cv with
        | error s =>
          have hs := asBool_noCtl cv s hb
          rw [hb] at h; subst h
          simp only [loopGo, bodyOnce, eval_loopForm, bindM_def, tryCatchS, hc, liftE, hb]
          cases s <;> first | (cases hs; done) | rfl
        | ok b =>
          rw [hb] at h
          cases b with
          | false =>
            subst h
            cases n with
            | zero => simp [eval, throwS] at hc
            | succ k =>
              simp only [loopGo, bodyOnce, eval_loopForm, eval_brk, bindM_def, tryCatchS, hc, liftE, hb]
              rfl
          | true =>
            simp only [liftE_ok_bind, ↓reduceIte] at h
            have hL : loopGo (n + 3) env (loopForm c body) σ =
                (do let go ← bodyOnce (n + 1) env body
                    if go then loopGo (n + 2) env (loopForm c body) else pure .unit) σ1 := by
              rw [loopGo, bindM_def, bindM_def]
              have : bodyOnce (n + 2) env (loopForm c body) σ = bodyOnce (n + 1) env body σ1 := by
                simp only [bodyOnce, eval_loopForm, bindM_def, tryCatchS, hc, liftE, hb]
                rfl
              rw [this]
            have hm := (mono (Nat.le_succ n)).bodyOnce env body
            rw [hL]
            cases hbo : bodyOnce n env body σ1 with
            | mk rb σ2 =>
              cases rb with
              | error e =>
                have hr : r = (.error e, σ2) := h ▸ bind_error hbo
                subst hr
                exact bind_error (hm.error hbo fun he => hnf σ2 (he ▸ rfl))
              | ok go =>
                rw [bind_ok (hm.ok hbo)]
                rw [bind_ok hbo] at h
                cases go with
                | false => exact h
                | true => exact while_as_loop env c body n σ2 r h hnf hnc

/-- the loop the pass builds for a `while` whose condition is not a constant -/
theorem sim_while (env : Env) (c body c' body' : Expr) (hcf : condForm c = true) :
    ∀ (f : Nat),
      (∀ k, k ≤ f → Sim (eval k env c) (fun f' => eval f' env c')) →
      (∀ k, k ≤ f → Sim (bodyOnce k env body) (fun f' => bodyOnce f' env body')) →
      Sim (whileGo f env c body) (fun f' => loopGo f' env (loopForm c' body')) := by
  intro f hcond hbody
  -- fold inside the `while`, as for any other construct …
  have hw : Sim (whileGo f env c body) (fun f' => whileGo f' env c' body') := by
    induction f with
    | zero => exact Sim.fuel _
    | succ f ihf =>
      apply Sim.shift
      simp only [whileGo]
      refine Sim.bind (hcond f (Nat.le_succ f)) fun _ => Sim.bind (Sim.const _) fun b => ?_
      cases b
      · exact Sim.const _
      · refine Sim.bind (hbody f (Nat.le_succ f)) fun go => ?_
        cases go
        · exact Sim.const _
        · exact ihf (fun k hk => hcond k (Nat.le_succ_of_le hk)) (fun k hk => hbody k (Nat.le_succ_of_le hk))
  -- … then read the folded `while` as a loop: the original never ends in an escaping `break` / `continue`, so neither
  -- does the run it is simulated by
  refine Sim.shift2 (Sim.of_runs fun σ hnf => ?_)
  obtain ⟨f0, h0⟩ := hw.run_eq rfl hnf
  exact ⟨f0, fun k hle => while_as_loop env c' body' k σ _ (h0 k hle) hnf
    (whileGo_noCtl env c body (fun k => (noCtl_all k).eval env c hcf) f σ)⟩

theorem whileGo_true_le (env : Env) (c body : Expr) : ∀ (f : Nat),
    (∀ k, k ≤ f → Pure (eval k env c) (.bool true)) → LeM (whileGo f env c body) (loopGo f env body)
  | 0, _ => LeM.fuel _
  | f + 1, h => by
    simp only [whileGo, loopGo]
    refine (Pure.cond_le (h f (Nat.le_succ f))).trans (LeM.bind (LeM.refl _) fun go => ?_)
    cases go
    · exact LeM.refl _
    · exact whileGo_true_le env c body f fun k hk => h k (Nat.le_succ_of_le hk)

theorem loop_brk_eventually (env : Env) (σ : St) : Eventually (fun f => eval f env (.loop .brk)) σ (.ok .unit, σ) :=
  ⟨4, fun
    | k + 4, _ => by simp only [eval, loopGo, bodyOnce, bindM_def, tryCatchS, throwS]; rfl
    | 0, hf | 1, hf | 2, hf | 3, hf => absurd hf (by omega)⟩

theorem fold_while (f : Nat) (ihs : ∀ k, k ≤ f → FoldAt k) (g : CEnv) (env : Env) (c body e' : Expr)
    (hc : covered (.while c body) = true) (henv : EnvOk g env) (hf : fold g (.while c body) = .ok e') :
    Sim (eval (f + 1) env (.while c body)) (fun f' => eval f' env e') := by
  simp only [covered, Bool.and_eq_true] at hc
  obtain ⟨⟨hcf, hcc⟩, hcb⟩ := hc
  have hpure : ∀ b, fold g c = .ok (.litBool b) → ∀ k, k ≤ f → Pure (eval k env c) (.bool b) :=
    fun b hcb' k hk => pure_bool ((ihs k hk).eval g env c _ hcc henv hcb')
  have htrue : ∀ body', fold g c = .ok (.litBool true) → fold g body = .ok body' →
      Sim (eval (f + 1) env (.while c body)) (fun f' => eval f' env (.loop body')) := by
    intro body' hct hb
    apply Sim.shift
    simp only [eval]
    exact Sim.trans_le (whileGo_true_le env c body f (hpure true hct))
      ((ihs f (Nat.le_refl f)).loopGo g env body body' hcb henv hb)
  have hfalse : fold g c = .ok (.litBool false) → Pure (eval (f + 1) env (.while c body)) .unit := by
    intro hcf'
    simp only [eval]
    exact pure_while_false env c body f (hpure false hcf')
  replace hf : (if crConst g c then _ else _) = Except.ok e' := hf
  split at hf <;> obtain ⟨c', hcfold, hf⟩ := R.bind_ok hf <;> split at hf
  · obtain ⟨body', hb, hf⟩ := R.bind_ok hf
    cases hf; exact htrue body' hcfold hb
  · cases hf; exact sim_const (c := .litUnit) rfl (hfalse hcfold)
  · simp [unsup] at hf
  · obtain ⟨body', hb, hf⟩ := R.bind_ok hf
    cases hf; exact htrue body' hcfold hb
  · cases hf; exact Sim.of_pure (hfalse hcfold) (loop_brk_eventually env)
  · obtain ⟨body', hb, hf⟩ := R.bind_ok hf
    cases hf
    apply Sim.shift
    simp only [eval]
    exact sim_while env c body c' body' hcf f (fun k hk => (ihs k hk).eval g env c c' hcc henv hcfold)
      (fun k hk => (ihs k hk).bodyOnce g env body body' hcb henv hb)

theorem FoldAt_succ (f : Nat) (ihs : ∀ k, k ≤ f → FoldAt k) : FoldAt (f + 1) := by
  have ih := ihs f (Nat.le_refl f)
  constructor
  · intro g env e e' hc henv hf
    cases e
    case var x => exact fold_var f g env x e' henv hf
    case pre op a => exact fold_pre f ih g env op a e' hc henv hf
    case and a b => exact fold_and f ih g env a b e' hc henv hf
    case or a b => exact fold_or f ih g env a b e' hc henv hf
    case bin op a b => exact fold_bin f ih g env op a b e' hc henv hf
    case «at» a i => exact fold_at f ih g env a i e' hc henv hf
    case ifElse c t e => exact fold_ifElse f ih g env c t e e' hc henv hf
    case arrayRepeat v n => exact fold_arrayRepeat f ih g env v n e' hc henv hf
    case litBool | litInt | litFloat | litStr | litUnit | brk | cont => cases hf; exact Sim.of_monoAt (·.eval _ _) _
    case array | tuple | struct | mutE | assign | call | tacc | facc | tfilter | reduce | loop | matchE | ret | ifSet
        | whileSet | forE =>
      simp only [fold] at hf; structural ih
    case post op a =>
      -- as `structural`, with the steps that do not depend on the operator taken once
      obtain ⟨a', ha, hf⟩ := R.bind_ok hf
      cases hf
      simp only [covered] at hc
      apply Sim.shift
      cases op <;> (simp only [eval]; sim_auto ih)
    case slice a s e st =>
      have hsl : (s.isNone && e.isNone && st.isNone) = false := by
        simp only [covered, Bool.and_eq_true, Bool.not_eq_true'] at hc
        exact hc.2
      rw [fold_slice_eq _ _ _ _ _ hsl] at hf
      structural ih
    case block body => exact fold_block f ih g env body e' hc henv hf
    case «while» c body => exact fold_while f ihs g env c body e' hc henv hf
    all_goals cases hc
  · intro g env e e' hc henv hf
    cases e <;> (simp only [foldOpt] at hf; structural ih)
  · intro g env es es' hc henv hf
    cases es <;> (simp only [foldList] at hf; structural ih)
  · intro g env fs fs' hc henv hf
    rcases fs with _ | ⟨⟨k, e⟩, fs⟩ <;> (simp only [foldFields] at hf; structural ih)
  · intro g env e e' hc henv hf
    apply Sim.shift
    simp only [evalStmtValue]
    exact ih.eval g env e e' hc henv hf
  · intro blk g env ss ss' g' hc henv hf
    exact fold_seq f ihs blk g env ss ss' g' hc henv hf
  · intro g env v arms arms' hc henv hf
    rcases arms with _ | ⟨_ | _ | _, rest⟩ <;> (simp only [foldArms] at hf; structural ih)
  · intro g env v cs cs' hc henv hf
    cases cs <;> (simp only [foldList] at hf; structural ih)
  · intro g env b b' hc henv hf
    apply Sim.shift
    simp only [bodyOnce]
    sim_auto ih
  · intro g env b b' hc henv hf
    apply Sim.shift
    simp only [loopGo]
    sim_auto ih
  · intro g env x ty e e' b b' hce hcb henv he hb
    apply Sim.shift
    simp only [whileSetGo]
    sim_auto ih
  · intro g env x itv b b' hcb henv hb
    apply Sim.shift
    simp only [forGo]
    sim_auto ih

theorem FoldAt_all (f : Nat) : FoldAt f :=
  Nat.strongRecOn f fun f ih =>
    match f with
    | 0 => FoldAt_zero
    | f + 1 => FoldAt_succ f fun k hk => ih k (Nat.lt_succ_of_le hk)

/-- folding an expression: in every environment that agrees with the recorded constants, the folded
    expression simulates the original one -/
theorem fold_correct (g : CEnv) (env : Env) (e e' : Expr) (f : Nat)
    (hc : covered e = true) (henv : EnvOk g env) (hf : fold g e = .ok e') :
    Sim (eval f env e) (fun f' => eval f' env e') :=
  (FoldAt_all f).eval g env e e' hc henv hf

/-- folding a whole program (a statement list, starting with nothing recorded): whenever the original
    program, run with `f` units of fuel from the store `σ` in any environment, ends with `r` without
    running out of fuel, the folded program ends with the same `r` — same value and final
    environment or same error / signal, same store — for every sufficiently large amount of fuel -/
theorem foldProgram_correct (prog prog' : List Expr) (hc : coveredS prog = true)
    (hf : foldProgram prog = .ok prog') (f : Nat) (env : Env) (σ : St) (r : Except Sig (Val × Env) × St)
    (hr : evalSeq f env prog σ = r) (hnf : ∀ σ', r ≠ (.error .fuel, σ')) :
    ∃ f0, ∀ f', f0 ≤ f' → evalSeq f' env prog' σ = r := by
  unfold foldProgram at hf
  obtain ⟨⟨p, g'⟩, hp, hf2⟩ := R.bind_ok hf
  cases hf2
  exact ((FoldAt_all f).evalSeq false [] env prog _ g' hc (fun _ _ _ hl => nomatch hl) hp).run_eq hr hnf

/-- `foldProgram_correct` for an expression (a block-structured program fragment), in every environment that agrees
    with the recorded constants -/
theorem fold_correct_unfolded (g : CEnv) (env : Env) (e e' : Expr) (f : Nat) (σ : St) (r : Except Sig Val × St)
    (hc : covered e = true) (henv : EnvOk g env) (hf : fold g e = .ok e')
    (hr : eval f env e σ = r) (hnf : ∀ σ', r ≠ (.error .fuel, σ')) :
    ∃ f0, ∀ f', f0 ≤ f' → eval f' env e' σ = r :=
  (fold_correct g env e e' f hc henv hf).run_eq hr hnf

/-! ## the open finding F07, as a witness

The pass runs a second time whenever a closure is created, with the CAPTURED VALUES recorded as constants
(`AnonymousFunction::exec` / `FunctionDeclaration::exec`).  The theorems above do not cover that use, and it
is not unobservable: folding the body of a function that is never called can report an error.  The body
`return 10 / d`, folded with the captured `d = 0` recorded, answers `ZeroDivision` - while the program that
only CREATES such a function completes under the reference semantics. -/

def f07Body : List Expr := [.ret (some (.bin .div (.litInt 10) (.var "d")))]

theorem f07_fold_at_creation_reports_an_error :
    foldSeq true [("d", some (.litInt 0), false)] f07Body = .error (.exec .ZeroDivision) := by
  simp [f07Body, foldSeq, fold, foldOpt, foldBin, CEnv.lookup, crConst, crVal, isCreationLit, isConst, foldsConst,
    ofExec, valOf, Spec.binScalar, Spec.ofScalar, bind, Except.bind]
  rw [C08.div_zero (10#64) (0#64) (by decide)]

theorem f07_program_completes (σ : St) :
    (evalSeq 10 [[("d", .int 0)]] [.set "f" (.fn [] .int f07Body), .litInt 0] σ).1 =
      .ok (.int 0, [[("f", .fn σ.nextId [] .int f07Body [("d", .int 0)] none), ("d", .int 0)]]) := by
  simp [evalSeq, evalStmt, evalStmtValue, eval, freshId, bindM_def, pure, Env.insert, Env.snapshot]

/-- the hypotheses are satisfiable by a program on which the pass does something: constants are
    propagated through a name into a block, an operator is folded, a branch is pruned, a constant
    statement is dropped -/
def demoProgram : List Expr :=
  [.set "x" (.litInt 5),
   .set "c" (.mutE (some .int) (.litInt 3)),
   .ifElse (.bin .eq (.var "x") (.litInt 5))
     (.block [.litInt 1, .bin .add (.at (.array [.litInt 1, .var "x"]) (.litInt 1)) (.pre .deref (.var "c"))])
     (some (.block [.litInt 0]))]

def demoFolded : List Expr :=
  [.set "x" (.litInt 5),
   .set "c" (.mutE (some .int) (.litInt 3)),
   .block [.bin .add (.litInt 5) (.pre .deref (.var "c"))]]

theorem demo_covered : coveredS demoProgram = true := by decide
theorem demo_folds : foldProgram demoProgram = .ok demoFolded := by
  simp [demoProgram, demoFolded, foldProgram, foldSeq, fold, foldList, foldBin, foldAt, foldPre, constOf,
    crConst, crVal, isCreationLit, isConst, isConstL, CEnv.lookup, foldsConst, ofExec, exprOfVal, valOf,
    Spec.binScalar, Spec.veq, Seq.atIdx, i64, bind, Except.bind]
end Ssl.Fold
