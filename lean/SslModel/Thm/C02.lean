import SslModel.Thm.C12
import SslModel.Gen.ExecErrors
/-!
# C02 — accepted programs do not go wrong at run time

In the reference semantics `Spec`, everything the implementation could only answer with a panic
is the outcome `Sig.wrong`.  Here are the operator-level facts: on operands of the kinds the checker
admits, no scalar operator, index or slice is `wrong` (the only failures are the documented run-time
errors, which are exactly the variants of `ExecError` in the source), and signals stay inside calls
and loops (from C12).  That *accepted programs* never reach `wrong` is proved in the
later stages, for the fragments of the checker models: `C02.eval_not_wrong` /
`C02.program_not_wrong` (first-order fragment), `CF.eval_outcome` / `CF.program_outcome` (with
functions: a value, a documented error, fuel or a well-typed `return`, nothing else),
`CS.eval_outcome` / `CS.program_outcome` (with cells, loops, unions, structs).  Outside those
fragments (the built-in iterator operators, modules, inferred `mut e`) it is not proved; for the
running implementation it is decided by the panic oracle on generated programs and host calls
(tools/props/c02.py).
-/
set_option linter.unusedSimpArgs false
namespace Ssl.C02
open Ssl Ssl.Spec

/-- an outcome the implementation could only answer with a panic -/
def isWrong {α} : Except Sig α → Bool
  | .error (.wrong _) => true
  | _ => false

def notWrong (r : Except Sig Val) : Prop :=
  (∃ v, r = .ok v) ∨ (∃ e, r = .error (.err e))

/-- the converse fails: a signal or `fuel` is not `wrong` either -/
theorem isWrong_of_notWrong {r : Except Sig Val} (h : notWrong r) : isWrong r = false := by
  rcases h with ⟨v, rfl⟩ | ⟨e, rfl⟩ <;> rfl

theorem ofScalar_notWrong (r : Except ExecErr Scalar) : notWrong (ofScalar r) := by
  cases r with
  | error e => exact Or.inr ⟨e, rfl⟩
  | ok s => cases s <;> exact Or.inl ⟨_, rfl⟩

/-- (int, int): every arithmetic, bitwise, shift and comparison operator is defined or raises a
    documented error -/
theorem int_operators_total (op : BinOp) (x y : I64)
    (h : op ≠ .map ∧ op ≠ .filter ∧ op ≠ .partition) : notWrong (binScalar op (.int x) (.int y)) := by
  cases op <;> first
    | exact ofScalar_notWrong _
    | exact Or.inl ⟨_, rfl⟩
    | (exfalso; simp at h)

/-- (float, float): + - * / ** and the comparisons -/
theorem float_operators_total (op : BinOp) (x y : F64)
    (h : op = .add ∨ op = .sub ∨ op = .mul ∨ op = .div ∨ op = .pow ∨ op = .lt ∨ op = .le ∨ op = .gt ∨
         op = .ge ∨ op = .eq ∨ op = .ne) : notWrong (binScalar op (.float x) (.float y)) := by
  rcases h with rfl | rfl | rfl | rfl | rfl | rfl | rfl | rfl | rfl | rfl | rfl <;>
    exact Or.inl ⟨_, rfl⟩

/-- (bool, bool): & | ^ == != -/
theorem bool_operators_total (op : BinOp) (x y : Bool)
    (h : op = .band ∨ op = .bor ∨ op = .bxor ∨ op = .eq ∨ op = .ne) :
    notWrong (binScalar op (.bool x) (.bool y)) := by
  rcases h with rfl | rfl | rfl | rfl | rfl <;> exact Or.inl ⟨_, rfl⟩

/-- (string, string) and (array, array): + -/
theorem concat_total (x y : String) (t1 t2 : Ty) (a b : List Val) :
    notWrong (binScalar .add (.str x) (.str y)) ∧ notWrong (binScalar .add (.arr t1 a) (.arr t2 b)) :=
  ⟨Or.inl ⟨_, rfl⟩, Or.inl ⟨_, rfl⟩⟩

/-- == and != are defined on every pair of values -/
theorem equality_total (x y : Val) : notWrong (binScalar .eq x y) ∧ notWrong (binScalar .ne x y) :=
  ⟨Or.inl ⟨_, rfl⟩, Or.inl ⟨_, rfl⟩⟩

/-- indexing an array or a string with an int is a value or IndexOutOfBounds -/
theorem index_total (t : Ty) (es : List Val) (s : String) (i : I64) :
    notWrong (atVal (.arr t es) (.int i)) ∧ notWrong (atVal (.str s) (.int i)) := by
  constructor <;>
  · simp only [atVal]
    split
    · split
      · exact Or.inl ⟨_, rfl⟩
      · exact Or.inr ⟨_, rfl⟩
    · exact Or.inr ⟨_, rfl⟩

/-- slicing an array or a string with int / absent bounds never fails at all: `sliceVal` is total on
    them (which positions it selects is C09's subject) -/
theorem slice_total (t : Ty) (es : List Val) (s : String) (a b c : Option I64) :
    (∃ v, sliceVal (.arr t es) (a.map .int) (b.map .int) (c.map .int) = .ok v) ∧
    (∃ v, sliceVal (.str s) (a.map .int) (b.map .int) (c.map .int) = .ok v) := by
  constructor <;> (cases a <;> cases b <;> cases c <;> exact ⟨_, rfl⟩)

/-- prefix operators on the kinds the checker admits -/
theorem prefix_total (x : I64) (f : F64) (b : Bool) :
    (∃ v, preScalar .neg (.int x) = .ok v) ∧ (∃ v, preScalar .neg (.float f) = .ok v) ∧
    (∃ v, preScalar .not (.int x) = .ok v) ∧ (∃ v, preScalar .not (.bool b) = .ok v) :=
  ⟨⟨_, rfl⟩, ⟨_, rfl⟩, ⟨_, rfl⟩, ⟨_, rfl⟩⟩

/-- no break / continue / return escapes a call (so none reaches the top level through one) -/
theorem signals_contained (f : Nat) (fv : Val) (args : List Val) (σ σ' : St) (s : Sig)
    (h : callFn f fv args σ = (.error s, σ')) : C12.isEscape s = false :=
  C12.call_contains_signals f fv args σ σ' s h

theorem loops_contain_break_continue (f : Nat) (env : Env) (body : Expr) (σ σ' : St) (s : Sig)
    (h : loopGo f env body σ = (.error s, σ')) : s ≠ .brk ∧ s ≠ .cont :=
  C12.loop_catches_break_continue f env body σ σ' s h

/-- the documented run-time errors, regenerated from src/errors/exec_error.rs -/
theorem errors_enumerated :
    Gen.execErrors = ["IndexOutOfBounds", "NegativeExponent", "NegativeLength", "OverflowShift",
                      "ZeroDivision", "ZeroModulo"] := rfl

end Ssl.C02
