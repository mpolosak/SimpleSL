import SslModel.Model.ValText
import SslModel.Lemmas.Lists
/-!
# C20 — literal values survive printing and re-parsing

Proved here, over the model of `parse_int_with_radix` and of the `{:?}` / `unescaper` pair:
integer literals denote their positional value or overflow, exactly at 2^63 - 1 (2^63 for a negated
literal), whatever underscores they contain; each escape the printer emits is read back as the
character it stands for, and every ASCII *string* is read back from its escaped form
(`ascii_string_roundtrip`, by induction with `unescape_escapeChar` for an arbitrary remaining text).
The round trip of whole nested values is proved in `Thm/C20Values`, and checked on generated values in
both directions between model and implementation (tools/props/c20.py).
-/
namespace Ssl.C20
open Ssl Ssl.ValText

/-- underscores do not change what a literal denotes -/
theorem underscores_ignored (radix : Nat) (neg : Bool) (ds : List Char) :
    parseIntDigits radix neg ds = parseIntDigits radix neg (ds.filter (fun c => c != '_' && c != ' ')) := by
  simp [parseIntDigits, List.filter_filter]

/-- what a digit string denotes, for either sign: its positional value when that fits into an int, and rejected
    otherwise; with a leading minus the magnitude may be one larger (MIN_INT reads back) -/
theorem parseIntDigits_value (radix : Nat) (neg : Bool) (ds : List Char) (v : Nat)
    (hne : (ds.filter (fun c => c != '_' && c != ' ')).isEmpty = false)
    (hv : radixValue radix (ds.filter (fun c => c != '_' && c != ' ')) = some v) :
    parseIntDigits radix neg ds =
      if neg then (if v ≤ 2 ^ 63 then some (-(v : Int)) else none) else (if v ≤ 2 ^ 63 - 1 then some (v : Int) else none) := by
  simp only [parseIntDigits, hne, hv]
  rfl

/-- a literal denotes its positional value when that fits into an int, and is rejected otherwise -/
theorem int_literal_value (radix : Nat) (ds : List Char) (v : Nat)
    (hne : (ds.filter (fun c => c != '_' && c != ' ')).isEmpty = false)
    (hv : radixValue radix (ds.filter (fun c => c != '_' && c != ' ')) = some v) :
    parseIntDigits radix false ds = (if v ≤ 2 ^ 63 - 1 then some (v : Int) else none) :=
  parseIntDigits_value radix false ds v hne hv

theorem radixValue_snoc (radix : Nat) (ds : List Char) (c : Char) (v d : Nat)
    (hv : radixValue radix ds = some v) (hd : digitVal c = some d) (hlt : d < radix) :
    radixValue radix (ds ++ [c]) = some (v * radix + d) := by
  unfold radixValue at *
  rw [List.foldl_append]
  simp [hv, hd, hlt]

/-- boundary instances (test vectors, evaluated by the kernel alone: `decide` would first run the same evaluation in the elaborator) -/
theorem max_int_reads : parseIntDigits 10 false "9223372036854775807".toList = some (2 ^ 63 - 1) := by decide +kernel
theorem max_int_plus_one_overflows : parseIntDigits 10 false "9223372036854775808".toList = none := by decide +kernel
theorem min_int_reads : parseIntDigits 10 true "9223372036854775808".toList = some (-(2 ^ 63)) := by decide +kernel
theorem hex_with_underscores : parseIntDigits 16 false "_7FFF_ffff__FFFF_FFFF_".toList = some (2 ^ 63 - 1) := by decide +kernel

/-! The arms of `unescape` the printer's escapes meet.  Each holds by unfolding the definition on the characters
    given (`rfl`; `show` where a test on a variable remains): asking `simp` for the equations of `unescape` instead
    makes Lean prove one equation per arm of its overlapping patterns, which takes seconds. -/

theorem unescape_raw (f : Nat) (c : Char) (rest : List Char) (h : (c != '\\') = true) :
    unescape (f + 1) (c :: rest) = (unescape f rest).map (c :: ·) := by
  show (if (c != '\\') = true then (unescape f rest).map (c :: ·) else _) = _
  rw [if_pos h]

theorem unescape_quote (f : Nat) (rest : List Char) :
    unescape (f + 1) ('\\' :: '"' :: rest) = (unescape f rest).map ('"' :: ·) := rfl

theorem unescape_backslash (f : Nat) (rest : List Char) :
    unescape (f + 1) ('\\' :: '\\' :: rest) = (unescape f rest).map ('\\' :: ·) := rfl

theorem unescape_newline_tab_cr (f : Nat) (rest : List Char) :
    unescape (f + 1) ('\\' :: 'n' :: rest) = (unescape f rest).map ('\n' :: ·) ∧
    unescape (f + 1) ('\\' :: 't' :: rest) = (unescape f rest).map ('\t' :: ·) ∧
    unescape (f + 1) ('\\' :: 'r' :: rest) = (unescape f rest).map ('\r' :: ·) := ⟨rfl, rfl, rfl⟩

theorem unescape_unicode (f : Nat) (hex rest : List Char) (n : Nat)
    (hb : ∀ c ∈ hex, c ≠ '}') (hp : parseHex hex = some n) (hn : n < 0xD800) :
    unescape (f + 1) ('\\' :: 'u' :: '{' :: (hex ++ '}' :: rest)) =
      (unescape f rest).map (Char.ofNat n :: ·) := by
  obtain ⟨ht, hd⟩ := takeWhile_dropWhile_append (· != '}') hex ('}' :: rest) (by simpa using hb)
    (by rintro c cs ⟨⟩; rfl)
  -- the arm for `\\u{`: the digits up to `}`, their value, the scalar-value test
  show (match parseHex ((hex ++ '}' :: rest).takeWhile (· != '}')) with
        | some n => if n < 0x110000 ∧ ¬ (0xD800 ≤ n ∧ n ≤ 0xDFFF) then
            (unescape f (((hex ++ '}' :: rest).dropWhile (· != '}')).drop 1)).map (Char.ofNat n :: ·) else none
        | none => none) = _
  rw [ht, hd, hp]
  exact if_pos ⟨by omega, by omega⟩

/-- the printer's escapes of the modelled class, one by one -/
theorem escape_table :
    escapeChar '"' = ['\\', '"'] ∧ escapeChar '\\' = ['\\', '\\'] ∧ escapeChar '\n' = ['\\', 'n'] ∧
    escapeChar '\r' = ['\\', 'r'] ∧ escapeChar '\t' = ['\\', 't'] ∧
    escapeChar (Char.ofNat 0) = ['\\', 'u', '{', '0', '}'] ∧
    escapeChar (Char.ofNat 0x1b) = ['\\', 'u', '{', '1', 'b', '}'] ∧
    escapeChar (Char.ofNat 0x7f) = ['\\', 'u', '{', '7', 'f', '}'] ∧
    escapeChar 'a' = ['a'] ∧ escapeChar '\'' = ['\''] := by decide +kernel

theorem hexDigit_spec : ∀ k < 16, digitVal (hexDigit k) = some k ∧
    hexDigit k ≠ '}' ∧ hexDigit k ≠ '\\' ∧ hexDigit k ≠ '"' := by
  decide +kernel

theorem hexOf_spec (n : Nat) (h : n < 256) :
    parseHex (hexOf n) = some n ∧ ∀ c ∈ hexOf n, c ≠ '}' ∧ c ≠ '\\' ∧ c ≠ '"' := by
  have ⟨d1, b1⟩ := hexDigit_spec (n / 16 % 16) (Nat.mod_lt _ (by decide))
  have ⟨d2, b2⟩ := hexDigit_spec (n % 16) (Nat.mod_lt _ (by decide))
  by_cases h16 : n < 16
  · rw [Nat.mod_eq_of_lt h16] at d2 b2
    simp [hexOf, h16, parseHex, radixValue, d2, b2]
  · simp [hexOf, h16, parseHex, radixValue, d1, d2, b1, b2, Nat.mod_lt]
    omega

theorem escapeChar_cases (c : Char) :
    c = '"' ∧ escapeChar c = ['\\', '"'] ∨ c = '\\' ∧ escapeChar c = ['\\', '\\'] ∨
    c = '\n' ∧ escapeChar c = ['\\', 'n'] ∨ c = '\r' ∧ escapeChar c = ['\\', 'r'] ∨
    c = '\t' ∧ escapeChar c = ['\\', 't'] ∨
    (c.toNat < 32 ∨ c.toNat = 127) ∧ escapeChar c = '\\' :: 'u' :: '{' :: (hexOf c.toNat ++ ['}']) ∨
    (c ≠ '"' ∧ c ≠ '\\') ∧ escapeChar c = [c] := by
  unfold escapeChar
  -- `rw [if_neg ..]` arm by arm: `split` and `simp` are slow to check on these character tests
  by_cases h1 : c = '"'
  · subst h1; exact .inl ⟨rfl, rfl⟩
  rw [if_neg (by simpa using h1)]
  by_cases h2 : c = '\\'
  · subst h2; exact .inr (.inl ⟨rfl, rfl⟩)
  rw [if_neg (by simpa using h2)]
  by_cases h3 : c = '\n'
  · subst h3; exact .inr (.inr (.inl ⟨rfl, rfl⟩))
  rw [if_neg (by simpa using h3)]
  by_cases h4 : c = '\r'
  · subst h4; exact .inr (.inr (.inr (.inl ⟨rfl, rfl⟩)))
  rw [if_neg (by simpa using h4)]
  by_cases h5 : c = '\t'
  · subst h5; exact .inr (.inr (.inr (.inr (.inl ⟨rfl, rfl⟩))))
  rw [if_neg (by simpa using h5)]
  by_cases h6 : c.toNat < 32 ∨ c.toNat = 127
  · rw [if_pos (by simpa using h6)]; exact .inr (.inr (.inr (.inr (.inr (.inl ⟨h6, rfl⟩)))))
  · rw [if_neg (by simpa using h6)]; exact .inr (.inr (.inr (.inr (.inr (.inr ⟨⟨h1, h2⟩, rfl⟩)))))

theorem escape_cons (c : Char) (s : List Char) : escape (c :: s) = escapeChar c ++ escape s :=
  List.flatMap_cons

/-- one escaped character in front of ANY remaining text: each arm of `escapeChar` is read by the
    arm of `unescape` that the lemmas above characterise -/
theorem unescape_escapeChar (c : Char) (hc : c.toNat < 128) (f : Nat) (rest : List Char) :
    unescape (f + 1) (escapeChar c ++ rest) = (unescape f rest).map (c :: ·) := by
  rcases escapeChar_cases c with ⟨rfl, h⟩ | ⟨rfl, h⟩ | ⟨rfl, h⟩ | ⟨rfl, h⟩ | ⟨rfl, h⟩ | ⟨_, h⟩ | ⟨⟨_, hb⟩, h⟩ <;>
    rw [h]
  · exact unescape_quote f rest
  · exact unescape_backslash f rest
  · exact (unescape_newline_tab_cr f rest).1
  · exact (unescape_newline_tab_cr f rest).2.2
  · exact (unescape_newline_tab_cr f rest).2.1
  · have ⟨hp, hb⟩ := hexOf_spec c.toNat (by omega)
    have h := unescape_unicode f (hexOf c.toNat) rest c.toNat (fun x hx => (hb x hx).1) hp (by omega)
    rw [Char.ofNat_toNat] at h
    simpa using h
  · exact unescape_raw f c rest (by simpa using hb)

theorem toNat_ofNat (n : Nat) (h : n < 0xD800) : (Char.ofNat n).toNat = n := by
  have hv : n.isValidChar := Or.inl h
  simp [Char.ofNat, hv, Char.ofNatAux, Char.toNat]

/-- every character of the modelled class: reading its escape yields the character - the instances of
    `unescape_escapeChar` the property's quantifier asks for, each of the 128 ASCII code points before three
    different continuations (a digit, a letter, the end) -/
theorem ascii_escape_roundtrip :
    ∀ n : Fin 128,
      unescape 12 (escapeChar (Char.ofNat n.val) ++ ['1']) = some [Char.ofNat n.val, '1'] ∧
      unescape 12 (escapeChar (Char.ofNat n.val) ++ ['a']) = some [Char.ofNat n.val, 'a'] ∧
      unescape 12 (escapeChar (Char.ofNat n.val)) = some [Char.ofNat n.val] := by
  intro n
  have hc : (Char.ofNat n.val).toNat < 128 := by rw [toNat_ofNat _ (by omega)]; exact n.isLt
  have h := unescape_escapeChar _ hc 11
  refine ⟨?_, ?_, ?_⟩
  · rw [h]; rfl
  · rw [h]; rfl
  · rw [← List.append_nil (escapeChar _), h]; rfl

/-- fuel: one unit per character of the string and one for the end of the text -/
theorem ascii_string_roundtrip_ge (s : List Char) (hs : ∀ c ∈ s, c.toNat < 128) :
    ∀ f, s.length + 1 ≤ f → unescape f (escape s) = some s := by
  induction s with
  | nil =>
    intro f hf
    cases f with
    | zero => omega
    | succ g => rfl
  | cons c s ih =>
    intro f hf
    cases f with
    | zero => omega
    | succ g =>
      rw [escape_cons, unescape_escapeChar c (hs c (by simp)),
        ih (fun x hx => hs x (by simp [hx])) g (by simp at hf; omega)]
      rfl

/-- **every ASCII string**: unescaping the escaped text gives the string back -/
theorem ascii_string_roundtrip (s : List Char) (hs : ∀ c ∈ s, c.toNat < 128) :
    unescape (s.length + 1) (escape s) = some s :=
  ascii_string_roundtrip_ge s hs _ (Nat.le_refl _)

/-- and it is the printed form of a string value between quotes that the reader sees -/
example : unescape 20 (escape "a\"b\\0\n\x1b".toList) = some "a\"b\\0\n\x1b".toList := by decide

end Ssl.C20
