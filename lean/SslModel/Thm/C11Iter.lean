import SslModel.Thm.C08
import SslModel.Thm.C11Pipe
import SslModel.Thm.C13
/-!
# C11 — `a~` enumerates the array `a`

The closure text of unary_operation/iter.rs (`iterBody`: a cursor cell `i`, started at -1, incremented BEFORE each
test `*i < len`, the element read by `array[*i]`) run by the reference evaluator: from a cursor holding `j - 1` one call
stores `j` and returns `(true, a[j])` when `j < len a`, `(false, default)` when `len a ≤ j` - 64-bit wrap-around, the
signed comparison and the index normalisation of `at` are discharged with the operator theorems of `Thm/C08`
(`add_wraps`, `lt_signed`) for every array shorter than 2^63.  Hence, by induction on the remaining length, `a~`
behaves like the list `a.drop j` (`LL`: what its successive calls return), `a~ $]` from a fresh cursor is `a`, and the
whole expression `e~ $]` evaluates to the array `e` evaluates to.  A list-like source under `@ g` / `? p` with callbacks
that compute given functions, or under `? T`, makes the run relations of `Thm/C11Pipe`.
-/
namespace Ssl.C11
open Ssl Ssl.Spec

/-- the iterator value that `a~` builds: `t` the element type in the closure's result type, `ty` the tag of the array
    value it captured (the creation code uses one type for both), `loc` the cursor cell -/
def arrIter (id loc : Nat) (t ty : Ty) (es : List Val) (dflt : Val) : Val :=
  .fn id [] (.tup [.bool, t]) iterBody
    [("i", .cell loc .int), ("len", .int (BitVec.ofNat 64 es.length)), ("array", .arr ty es), ("default", dflt)] none

theorem bmod_small (j : Int) (h0 : 0 ≤ j) (h1 : j < 2 ^ 63) : j.bmod M64 = j :=
  Int.bmod_eq_of_le_mul_two (by simp only [M64]; omega) (by simp only [M64]; omega)

theorem step_cell (c : I64) (j : Nat) (hj : c.toInt = (j : Int) - 1) (h1 : (j : Int) < 2 ^ 63) :
    ∃ x : I64, binScalar .add (.int c) (.int 1#64) = .ok (.int x) ∧ x.toInt = j := by
  obtain ⟨x, hx, hv⟩ := C08.add_wraps c 1#64
  -- on two ints `binScalar .add` is `ofScalar (Gen.add.interp ..)`, by computation
  refine ⟨x, congrArg ofScalar hx, ?_⟩
  have e1 : (1#64 : I64).toInt = 1 := by decide
  rw [hv, hj, e1, Int.sub_add_cancel]
  exact bmod_small j (Int.natCast_nonneg j) h1

theorem len_toInt (n : Nat) (hn : (n : Int) < 2 ^ 63) : (BitVec.ofNat 64 n).toInt = n := by
  rw [BitVec.toInt_ofNat']
  exact bmod_small n (Int.natCast_nonneg n) hn

theorem lt_cell (x : I64) (j n : Nat) (hx : x.toInt = j) (hn : (n : Int) < 2 ^ 63) :
    binScalar .lt (.int x) (.int (BitVec.ofNat 64 n)) = .ok (.bool (decide (j < n))) := by
  have h : Gen.lower.interp x (BitVec.ofNat 64 n) = .ok (.bool (decide (x.toInt < (BitVec.ofNat 64 n).toInt))) :=
    C08.lt_signed x (BitVec.ofNat 64 n)
  rw [hx, len_toInt n hn] at h
  refine (congrArg ofScalar h).trans ?_
  show Except.ok (Val.bool (decide ((j : Int) < n))) = .ok (.bool (decide (j < n)))
  congr 2
  simp

theorem at_cell (ty : Ty) (es : List Val) (x : I64) (j : Nat) (v : Val) (hx : x.toInt = j) (hv : es[j]? = some v) :
    atVal (.arr ty es) (.int x) = .ok v := by
  obtain ⟨hjn, e⟩ := List.getElem?_eq_some_iff.mp hv
  simp only [atVal, Seq.atIdx, hx]
  have : (0 : Int) ≤ (j : Int) := by omega
  simp [this, hjn, e]

def setCell (σ : St) (loc : Nat) (v : Val) : St := { σ with cells := σ.cells.set! loc v }

theorem setCell_get (σ : St) (loc : Nat) (v w : Val) (h : σ.cells[loc]? = some w) :
    (setCell σ loc v).cells[loc]? = some v := by
  simp [setCell, (Array.getElem?_eq_some_iff.mp h).1]

/-- the first statement of `iterBody`, `i += 1`, from a cursor holding `j - 1`: the cell then holds `j`, and the rest of
    the body runs in that store.  The statement is `C13.compound_reads_after_rhs` at target `i` and value `1` -/
theorem iter_advance (f loc : Nat) (env : Env) (σ : St) (c : I64) (j : Nat) (henv : env.lookup "i" = some (.cell loc .int))
    (hc : σ.cells[loc]? = some (.int c)) (hj : c.toInt = (j : Int) - 1) (hj2 : (j : Int) < 2 ^ 63) :
    ∃ x : I64, x.toInt = j ∧
      evalSeq (f + 4) env iterBody σ = evalSeq (f + 3) env iterBody.tail (setCell σ loc (.int x)) := by
  obtain ⟨x, hx, hxv⟩ := step_cell c j hj hj2
  have hi : eval (f + 1) env (.var "i") σ = (.ok (.cell loc .int), σ) := by rw [eval_var, henv]; rfl
  have h1 : eval (f + 1) env (.litInt 1) σ = (.ok (.int (BitVec.ofInt 64 1)), σ) := by rw [eval_litInt]; rfl
  have ha := C13.compound_reads_after_rhs (f + 1) env .add .add (.var "i") (.litInt 1) σ σ σ loc .int _ _ _ rfl hi h1 hc hx
  have hs : evalStmt (f + 3) env (.assign .add (.var "i") (.litInt 1)) σ = (.ok (.int x, env), setCell σ loc (.int x)) := by
    rw [evalStmt_assign, bind_ok ha]; rfl
  exact ⟨x, hxv, by rw [iterBody, evalSeq_cons, bind_ok hs]; rfl⟩

/-- the environment the body of `a~`'s closure runs in -/
def iterEnv (loc : Nat) (ty : Ty) (es : List Val) (dflt : Val) : Env :=
  [[], [("i", .cell loc .int), ("len", .int (BitVec.ofNat 64 es.length)), ("array", .arr ty es), ("default", dflt)]]

theorem iter_call_some (f id loc : Nat) (t ty : Ty) (es : List Val) (dflt v : Val) (σ : St) (c : I64) (j : Nat)
    (hc : σ.cells[loc]? = some (.int c)) (hj : c.toInt = (j : Int) - 1) (hn : (es.length : Int) < 2 ^ 63)
    (hv : es[j]? = some v) :
    ∃ x : I64, x.toInt = j ∧
      callFn (f + 20) (arrIter id loc t ty es dflt) [] σ = (.ok (.tup [.bool true, v]), setCell σ loc (.int x)) := by
  have hjn : j < es.length := (List.getElem?_eq_some_iff.mp hv).1
  obtain ⟨x, hxv, hpre⟩ := iter_advance (f + 15) loc (iterEnv loc ty es dflt) σ c j (lookup_captured _ _ _).2 hc hj
    (Int.lt_trans (Int.ofNat_lt.mpr hjn) hn)
  refine ⟨x, hxv, callFn0_of_ret (by intro n h; cases h) (hpre.trans ?_)⟩
  -- the facts the rest of the body meets, in the order it meets them: read the cursor, compare with the length, index
  have hr := readCell_ok (setCell_get σ loc (.int x) _ hc)
  have hlt := lt_cell x j es.length hxv hn
  have hat := at_cell ty es x j v hxv hv
  simp only [iterEnv, iterBody, List.tail, spec_eq, eval_block, spec_env, String.reduceBEq, ↓reduceIte, bind_ok hr, hlt, hat, hjn,
    decide_true]
  rfl

theorem iter_call_none (f id loc : Nat) (t ty : Ty) (es : List Val) (dflt : Val) (σ : St) (c : I64) (j : Nat)
    (hc : σ.cells[loc]? = some (.int c)) (hj : c.toInt = (j : Int) - 1) (hn : (es.length : Int) < 2 ^ 63)
    (hjn : es.length ≤ j) (hj2 : (j : Int) < 2 ^ 63) :
    ∃ x : I64, x.toInt = j ∧
      callFn (f + 20) (arrIter id loc t ty es dflt) [] σ = (.ok (.tup [.bool false, dflt]), setCell σ loc (.int x)) := by
  obtain ⟨x, hxv, hpre⟩ := iter_advance (f + 15) loc (iterEnv loc ty es dflt) σ c j (lookup_captured _ _ _).2 hc hj hj2
  refine ⟨x, hxv, callFn0_of_ret (by intro n h; cases h) (hpre.trans ?_)⟩
  have hr := readCell_ok (setCell_get σ loc (.int x) _ hc)
  have hlt := lt_cell x j es.length hxv hn
  have hnl : ¬ j < es.length := Nat.not_lt.mpr hjn
  simp only [iterEnv, iterBody, List.tail, spec_eq, spec_env, String.reduceBEq, ↓reduceIte, bind_ok hr, hlt, hnl,
    decide_false]
  rfl

/-- `it`, called repeatedly from store `σ` at fuel `f`, behaves like the list `xs`: it returns `(true, x)` for each
    element in order and then an end marker -/
def LL (it : Val) (f : Nat) : List Val → St → Prop
  | [], σ => ∃ rest σ', callFn f it [] σ = (.ok (.tup (.bool false :: rest)), σ')
  | x :: xs, σ => ∃ σ1, callFn f it [] σ = (.ok (.tup [.bool true, x]), σ1) ∧ LL it f xs σ1

theorem LL.mono {it : Val} {f g : Nat} (hle : f ≤ g) : ∀ {xs : List Val} {σ : St}, LL it f xs σ → LL it g xs σ
  | [], _, ⟨rest, σ', h⟩ => ⟨rest, σ', callFn_lift g h hle⟩
  | _ :: _, _, ⟨σ1, h, t⟩ => ⟨σ1, callFn_lift g h hle, LL.mono hle t⟩

theorem LL_iff_calls {it : Val} {f : Nat} : ∀ {xs : List Val} {σ : St}, LL it f xs σ ↔ ∃ σ', Calls it f σ xs σ'
  | [], _ => ⟨fun ⟨_, σ', h⟩ => ⟨σ', .done h⟩, fun ⟨_, c⟩ => by cases c with | done h => exact ⟨_, _, h⟩⟩
  | _ :: _, _ =>
    ⟨fun ⟨_, h, t⟩ => let ⟨σ', c⟩ := LL_iff_calls.mp t; ⟨σ', .more h c⟩,
     fun ⟨_, c⟩ => by cases c with | more h c => exact ⟨_, h, LL_iff_calls.mpr ⟨_, c⟩⟩⟩

theorem LL.pulls {it : Val} {f : Nat} {xs : List Val} {σ : St} (h : LL it f xs σ) :
    ∃ σ', Pulls it (f + 2 + xs.length) σ xs σ' :=
  let ⟨σ', c⟩ := LL_iff_calls.mp h; ⟨σ', c.pulls⟩

theorem LL.collect {it : Val} {f : Nat} {xs : List Val} {σ : St} (h : LL it f xs σ) :
    ∃ σ', collectGo (f + 2 + xs.length) it [] σ = (.ok xs, σ') := by
  obtain ⟨σ', hp⟩ := h.pulls
  exact ⟨σ', collectGo_nil hp⟩

/-- the array iterator with its cursor at `j - 1` is list-like with the rest of the array -/
theorem iter_LL (id loc : Nat) (t ty : Ty) (es : List Val) (dflt : Val) (f0 : Nat) (hn : (es.length : Int) < 2 ^ 63) :
    ∀ (k j : Nat) (σ : St) (c : I64), j + k = es.length → σ.cells[loc]? = some (.int c) → c.toInt = (j : Int) - 1 →
      LL (arrIter id loc t ty es dflt) (f0 + 20) (es.drop j) σ := by
  intro k
  induction k with
  | zero =>
    intro j σ c hjk hc hj
    obtain rfl : j = es.length := hjk
    obtain ⟨x, _, hcall⟩ := iter_call_none f0 id loc t ty es dflt σ c es.length hc hj hn (Nat.le_refl _) hn
    rw [List.drop_eq_nil_of_le (Nat.le_refl _)]
    exact ⟨_, _, hcall⟩
  | succ k ih =>
    intro j σ c hjk hc hj
    have hjn : j < es.length := hjk ▸ Nat.lt_add_of_pos_right (Nat.succ_pos k)
    obtain ⟨x, hxv, hcall⟩ := iter_call_some f0 id loc t ty es dflt es[j] σ c j hc hj hn (List.getElem?_eq_getElem hjn)
    have hget := setCell_get σ loc (.int x) _ hc
    have hd : es.drop j = es[j] :: es.drop (j + 1) := List.drop_eq_getElem_cons hjn
    rw [hd]
    exact ⟨_, hcall, ih (j + 1) (setCell σ loc (.int x)) x ((Nat.add_right_comm j 1 k).trans hjk) hget
      (hxv.trans (Int.add_sub_cancel (j : Int) 1).symm)⟩

theorem iter_LL_start (id loc : Nat) (t ty : Ty) (es : List Val) (dflt : Val) (f0 : Nat) (hn : (es.length : Int) < 2 ^ 63)
    (σ : St) (hc : σ.cells[loc]? = some (.int (BitVec.ofInt 64 (-1)))) :
    LL (arrIter id loc t ty es dflt) (f0 + 20) es σ := by
  have h0 := iter_LL id loc t ty es dflt f0 hn es.length 0 σ _ (by omega) hc (by decide)
  rwa [List.drop_zero] at h0

/-- `a~` enumerates `a`: from a cursor cell holding `j - 1` the iterator yields `a[j], a[j+1], …` to the end, each
    element once, in order, and then reports exhaustion; the cursor then holds `len a` -/
theorem iter_pulls (id loc : Nat) (t ty : Ty) (es : List Val) (dflt : Val) (hn : (es.length : Int) < 2 ^ 63) :
    ∀ (k j : Nat) (σ : St) (c : I64), j + k = es.length → σ.cells[loc]? = some (.int c) → c.toInt = (j : Int) - 1 →
      ∃ σ', Pulls (arrIter id loc t ty es dflt) (22 + k) σ (es.drop j) σ' := by
  intro k j σ c hjk hc hj
  have := LL.pulls (iter_LL id loc t ty es dflt 0 hn k j σ c hjk hc hj)
  rwa [show 0 + 20 + 2 + (es.drop j).length = 22 + k by simp; omega] at this

/-- `a~ $]` from a fresh cursor is `a` -/
theorem iter_collect (id loc : Nat) (t ty : Ty) (es : List Val) (dflt : Val) (hn : (es.length : Int) < 2 ^ 63)
    (σ : St) (hc : σ.cells[loc]? = some (.int (BitVec.ofInt 64 (-1)))) :
    ∃ σ', collectGo (22 + es.length) (arrIter id loc t ty es dflt) [] σ = (.ok es, σ') :=
  (iter_LL_start id loc t ty es dflt 0 hn σ hc).collect

theorem eval_iter (f : Nat) (env : Env) (e : Expr) (σ σ1 : St) (ty : Ty) (es : List Val)
    (he : eval f env e σ = (.ok (.arr ty es), σ1)) :
    eval (f + 1) env (.post .iter e) σ =
      (.ok (arrIter σ1.nextId σ1.cells.size ty ty es ((ofType ty).getD .unit)),
       { cells := σ1.cells.push (.int (BitVec.ofInt 64 (-1))), nextId := σ1.nextId + 1 }) := by
  simp only [eval, bind_def, he, newCell, freshId, arrIter]; rfl

/-- the whole expression: `e~ $]` evaluates to the array `e` evaluates to (same elements, same order; the element type
    tag is recomputed by `mkArray`), whatever its length below 2^63 -/
theorem iter_then_collect (f : Nat) (env : Env) (e : Expr) (σ σ1 : St) (ty : Ty) (es : List Val)
    (he : eval f env e σ = (.ok (.arr ty es), σ1)) (hn : (es.length : Int) < 2 ^ 63) :
    ∃ σ', eval (f + 24 + es.length) env (.post .collect (.post .iter e)) σ = (.ok (Val.mkArray es), σ') := by
  have hi := eval_iter _ env e σ σ1 ty es (((mono (show f ≤ f + 22 + es.length by omega)).eval env e).ok he)
  obtain ⟨σ', hp⟩ := (iter_LL_start σ1.nextId σ1.cells.size ty ty es ((ofType ty).getD .unit) 0 hn
    { cells := σ1.cells.push (.int (BitVec.ofInt 64 (-1))), nextId := σ1.nextId + 1 } (by simp)).pulls
  rw [show f + 24 + es.length = (f + 22 + es.length + 1) + 1 by omega]
  exact ⟨σ', collect_spec _ env _ σ _ σ' _ es hi (hp.lift (by omega))⟩

/-! ## a list-like source under callbacks that compute given functions makes the runs of `@`, `?`, `? T` -/

/-- a callback that computes the function `h` at every fuel from `f0` on and leaves the store alone -/
def PureFn (g : Val) (h : Val → Val) (f0 : Nat) : Prop := ∀ k x σ, f0 ≤ k → callFn k g [x] σ = (.ok (h x), σ)

/-- a predicate callback that computes the test `q` and leaves the store alone: `PureFn p (fun x => .bool (q x)) f0` -/
def PurePred (p : Val) (q : Val → Bool) (f0 : Nat) : Prop := ∀ k x σ, f0 ≤ k → callFn k p [x] σ = (.ok (.bool (q x)), σ)

theorem PureFn.mono {g : Val} {h : Val → Val} {f0 f1 : Nat} (hg : PureFn g h f0) (hle : f0 ≤ f1) : PureFn g h f1 :=
  fun k x σ hk => hg k x σ (Nat.le_trans hle hk)

theorem PurePred.mono {p : Val} {q : Val → Bool} {f0 f1 : Nat} (hq : PurePred p q f0) (hle : f0 ≤ f1) : PurePred p q f1 :=
  fun k x σ hk => hq k x σ (Nat.le_trans hle hk)

theorem mapRun_of_ll {it g : Val} {h : Val → Val} {f : Nat} (hg : PureFn g h f) :
    ∀ {xs : List Val} {σ : St}, LL it f xs σ → ∃ σ', MapRun it g f σ (xs.map h) σ'
  | [], _, ⟨_, σ', hs⟩ => ⟨σ', .done hs⟩
  | x :: _, _, ⟨σ1, hs, t⟩ => let ⟨σ', r⟩ := mapRun_of_ll hg t; ⟨σ', .more hs (hg f x σ1 (Nat.le_refl f)) r⟩

/-- the run of `a~ @ g` for a mapper that computes `h` (at every fuel from `f0` on, leaving the store alone) -/
theorem iter_mapRun (id loc : Nat) (t ty : Ty) (es : List Val) (dflt g : Val) (h : Val → Val) (f0 : Nat)
    (hn : (es.length : Int) < 2 ^ 63) (hg : ∀ k x σ, f0 ≤ k → callFn k g [x] σ = (.ok (h x), σ)) :
    ∀ (k j : Nat) (σ : St) (c : I64), j + k = es.length → σ.cells[loc]? = some (.int c) → c.toInt = (j : Int) - 1 →
      ∃ σ', MapRun (arrIter id loc t ty es dflt) g (f0 + 20) σ ((es.drop j).map h) σ' :=
  fun k j σ c hjk hc hj =>
    mapRun_of_ll (PureFn.mono hg (by omega)) (iter_LL id loc t ty es dflt f0 hn k j σ c hjk hc hj)

theorem FilterRun.mono {it p : Val} {f N N' : Nat} {σ σ' : St} {xs : List Val} (hNN : N ≤ N')
    (h : FilterRun it p f N σ xs σ') : FilterRun it p f N' σ xs σ' := by
  induction h with
  | done hl hn => exact .done hl (by omega)
  | more hl hn _ ih => exact .more hl (by omega) ih

theorem FilterRun.skip_head {it p : Val} {f N : Nat} {σ σ1 σ2 σ' : St} {x : Val} {xs : List Val}
    (hs : callFn f it [] σ = (.ok (.tup [.bool true, x]), σ1)) (hp : callFn f p [x] σ1 = (.ok (.bool false), σ2))
    (h : FilterRun it p f N σ2 xs σ') : FilterRun it p f (N + 1) σ xs σ' := by
  cases h with
  | done hl hn => exact .done (.skip hs hp hl) (by omega)
  | more hl hn tl => exact .more (.skip hs hp hl) (by omega) (tl.mono (by omega))

/-- the bound `xs.length`: no more elements than the source has are rejected before an accepted one -/
theorem filterRun_of_ll {it p : Val} {q : Val → Bool} {f : Nat} (hq : PurePred p q f) :
    ∀ {xs : List Val} {σ : St}, LL it f xs σ → ∃ σ', FilterRun it p f xs.length σ (xs.filter q) σ'
  | [], _, ⟨_, σ', hs⟩ => ⟨σ', .done (.done hs) (Nat.le_refl 0)⟩
  | x :: xs, σ, ⟨σ1, hs, t⟩ => by
    obtain ⟨σ', ih⟩ := filterRun_of_ll hq t
    have hpx := hq f x σ1 (Nat.le_refl f)
    refine ⟨σ', ?_⟩
    cases hqx : q x <;> rw [hqx] at hpx <;> simp only [List.filter, hqx, List.length_cons]
    · exact FilterRun.skip_head hs hpx ih
    · exact .more (n := 0) (.keep hs hpx) (by omega) (ih.mono (by omega))

theorem TFRun.mono {it : Val} {t : Ty} {f N N' : Nat} {σ σ' : St} {xs : List Val} (hNN : N ≤ N')
    (h : TFRun it t f N σ xs σ') : TFRun it t f N' σ xs σ' := by
  induction h with
  | done hl hn => exact .done hl (by omega)
  | more hl hn _ ih => exact .more hl (by omega) ih

theorem TFRun.skip_head {it : Val} {t : Ty} {f N : Nat} {σ σ1 σ' : St} {x : Val} {xs : List Val}
    (hs : callFn f it [] σ = (.ok (.tup [.bool true, x]), σ1)) (ht : x.asType.sub t = false)
    (h : TFRun it t f N σ1 xs σ') : TFRun it t f (N + 1) σ xs σ' := by
  cases h with
  | done hl hn => exact .done (.skip hs ht hl) (by omega)
  | more hl hn tl => exact .more (.skip hs ht hl) (by omega) (tl.mono (by omega))

theorem tfRun_of_ll {it : Val} (t : Ty) {f : Nat} :
    ∀ {xs : List Val} {σ : St}, LL it f xs σ → ∃ σ', TFRun it t f xs.length σ (xs.filter (fun x => x.asType.sub t)) σ'
  | [], _, ⟨_, σ', hs⟩ => ⟨σ', .done (.done hs) (Nat.le_refl 0)⟩
  | x :: xs, σ, ⟨σ1, hs, tl⟩ => by
    obtain ⟨σ', ih⟩ := tfRun_of_ll t tl
    refine ⟨σ', ?_⟩
    cases hqx : x.asType.sub t <;> simp only [List.filter, hqx, List.length_cons]
    · exact TFRun.skip_head hs hqx ih
    · exact .more (n := 0) (.keep hs hqx) (by omega) (ih.mono (by omega))

/-- the run of `a~ ? p` for a predicate that computes the test `q` -/
theorem iter_filterRun (id loc : Nat) (t ty : Ty) (es : List Val) (dflt p : Val) (q : Val → Bool) (f0 : Nat)
    (hn : (es.length : Int) < 2 ^ 63) (hq : ∀ k x σ, f0 ≤ k → callFn k p [x] σ = (.ok (.bool (q x)), σ)) :
    ∀ (k j : Nat) (σ : St) (c : I64), j + k = es.length → σ.cells[loc]? = some (.int c) → c.toInt = (j : Int) - 1 →
      ∃ σ', FilterRun (arrIter id loc t ty es dflt) p (f0 + 20) k σ ((es.drop j).filter q) σ' := by
  intro k j σ c hjk hc hj
  have := filterRun_of_ll (PurePred.mono hq (by omega)) (iter_LL id loc t ty es dflt f0 hn k j σ c hjk hc hj)
  rwa [show (es.drop j).length = k by simp; omega] at this

example : ∃ σ', eval (1 + 24 + 2) [[("a", .arr .int [.int 1#64, .int 2#64])]] (.post .collect (.post .iter (.var "a"))) {} =
    (.ok (Val.mkArray [.int 1#64, .int 2#64]), σ') := by
  have he : eval 1 [[("a", Val.arr .int [.int 1#64, .int 2#64])]] (.var "a") {} = (.ok (.arr .int [.int 1#64, .int 2#64]), {}) :=
    rfl
  exact iter_then_collect 1 [[("a", .arr .int [.int 1#64, .int 2#64])]] (.var "a") {} {} .int [.int 1#64, .int 2#64] he (by decide)

end Ssl.C11
