import SslModel.Lemmas.Mono
import SslModel.Thm.C11
/-!
# C11 — what the iterators built by `@`, `?`, `? T` yield, pulling lazily and exactly once

`Thm/C11.lean` proves that creating `it @ g` pulls nothing and that the consumers (`$]`, the reducers, `for`)
are the folds of the documentation over whatever their source yields (`Pulls`).  Between the two stand the iterators
those operators build; this file holds what they yield: the closure texts of `bin_op/map.rs`, `filter.rs`,
`type_filter.rs` (`mapBody`, `filterBody`, `typeFilterBody`), run by the reference evaluator.  One call of `it @ g` makes ONE call of the source and - only when
the source yielded an element - ONE call of the mapper on it, in that order; therefore for every run (any length, any
effects of source and mapper on the store, threaded in order) the mapped iterator `Pulls` exactly the mapper's results.
The same for `?` and `? T`, whose closures loop over the rejected elements; then `$ init g`, `\` and `for` over any
source.

Fuel.  Every level of the evaluator costs one unit, and the hypotheses about the source and the callbacks are stated at
any fuel `f` at which they complete (monotonicity, `Lemmas/Mono.lean`, lifts them).  A closure called at `f + 19` runs
its statement list at `f + 18`, the first statement at `f + 17`, its right-hand side at `f + 16`, the call expression
at `f + 15`, the source at `f + 14`: 5 levels down.  The mapper sits 11 levels down (4th statement, `return`, tuple,
2nd element, call expression: `f + 8`).  A loop body run at `f + 20` is a block, so its statement list is again at
`f + 18` and the source at `f + 14`; the predicate sits 9 levels below the body (`f + 11`).  From there: a pull is one
more than a call (`f + 20`); the loop of `?` / `? T` one per rejected element and one for the last iteration
(`f + 21 + n`), the closure around it 4 more (`f + 25 + n`), its pull `f + 26 + n`; a `Pulls` one per element and one
for the end (`f + 21 + length`, and `f + 27 + N + length` when every pull rejects at most `N`).
-/
namespace Ssl.C11
open Ssl Ssl.Spec

theorem callFn_lift {fv : Val} {args : List Val} {σ σ' : St} {v : Val} {f : Nat} (g : Nat)
    (h : callFn f fv args σ = (.ok v, σ')) (hle : f ≤ g) : callFn g fv args σ = (.ok v, σ') :=
  ((mono hle).callFn fv args).ok h

theorem pure_def {α} (a : α) (σ : St) : (pure a : M α) σ = (.ok a, σ) := rfl

/-- the iterator value that `it @ g` builds (`eval` of `.bin .map`, `C11.map_is_lazy`) -/
def mapped (id : Nat) (r : Ty) (it g dflt : Val) : Val :=
  .fn id [] (.tup [.bool, r]) mapBody [("func", it), ("mapper", g), ("default", dflt)] none

theorem pull_lift {it : Val} {σ σ' : St} {v : Option Val} {f : Nat} (g : Nat)
    (h : pull f it σ = (.ok v, σ')) (hle : f ≤ g) : pull g it σ = (.ok v, σ') :=
  ((mono hle).pull it).ok h

/-- how `pull` reads what an iterator returned: `(true, x)` is the element `x`, `(false, …)` is exhaustion, anything
    else is not an iterator's answer -/
def pullResult : Val → Option (Option Val)
  | .tup [.bool true, x] => some (some x)
  | .tup (.bool false :: _) => some none
  | _ => none

theorem pull_of_result {it : Val} {f : Nat} {σ σ' : St} {t : Val} {o : Option Val}
    (h : callFn f it [] σ = (.ok t, σ')) (ho : pullResult t = some o) : pull (f + 1) it σ = (.ok o, σ') := by
  rw [pull_succ, bind_ok h]
  unfold pullResult at ho
  split at ho <;> cases ho <;> rfl

theorem pull_of_call {it : Val} {f : Nat} {σ σ' : St} {x : Val}
    (h : callFn f it [] σ = (.ok (.tup [.bool true, x]), σ')) : pull (f + 1) it σ = (.ok (some x), σ') :=
  pull_of_result h rfl

theorem pull_of_call_none {it : Val} {f : Nat} {σ σ' : St} {rest : List Val}
    (h : callFn f it [] σ = (.ok (.tup (.bool false :: rest)), σ')) : pull (f + 1) it σ = (.ok none, σ') :=
  pull_of_result h rfl

/-- in every helper closure the source is the first captured name, looked up from the body (one frame) or from the
    block inside its loop (one more, empty); by `BEq.rfl`, whereas `rfl` at a literal name would compare strings by
    unfolding `String.decEq` -/
theorem lookup_captured (src : String) (it : Val) (cap : Frame) :
    Env.lookup [(src, it) :: cap] src = some it ∧ Env.lookup [[], (src, it) :: cap] src = some it := by
  simp [Env.lookup, frameLookup]

/-- the two statements every helper closure begins with, `res := src(); (con, value) := res`, in a fresh frame: the
    source is called once and its answer bound.  The call is 4 levels below the statement list (statement, right-hand
    side, call expression, callee), at `f + 1` and not `f` because the name `src` is evaluated at that level too.
    Without `spec_env`: the destructuring stays as it stands, for the caller, who knows the answer -/
theorem pull_prefix {f : Nat} {env : Env} {src : String} {it : Val} {vs : List Val} {σ σ1 : St} {s3 : Expr}
    {rest : List Expr} {g : Nat} (hsrc : env.lookup src = some it) (h : callFn g it [] σ = (.ok (.tup vs), σ1))
    (hle : g ≤ f + 1) :
    evalSeq (f + 5) ([] :: env) (.set "res" (.call (.var src) []) :: .destruct ["con", "value"] (.var "res") :: s3 :: rest) σ =
      evalSeq (f + 3) ((List.zip ["con", "value"] vs).foldl (fun en (x, w) => en.insert x w) ([("res", .tup vs)] :: env))
        (s3 :: rest) σ1 := by
  simp only [spec_eq, Env.lookup, frameLookup, insert_cons, hsrc, bind_ok (callFn_lift (f + 1) h hle), String.reduceBEq,
    ↓reduceIte]

/-- one call of `it @ g` when the source yields `x`: ONE call of the source, then ONE call of the mapper on `x`,
    in that order (the store threads σ → σ1 → σ2); the call returns `(true, g(x))`.  Stated for the CALL (not only
    the pull) so that the mapped iterator can itself be the source of the next operator of a chain -/
theorem map_call_some (f id : Nat) (r : Ty) (it g dflt x y : Val) (σ σ1 σ2 : St)
    (hs : callFn f it [] σ = (.ok (.tup [.bool true, x]), σ1))
    (hg : callFn f g [x] σ1 = (.ok y, σ2)) :
    callFn (f + 19) (mapped id r it g dflt) [] σ = (.ok (.tup [.bool true, y]), σ2) := by
  have h2 := callFn_lift (f + 8) hg (Nat.le_add_right f 8)
  refine callFn0_of_ret (by intro n h; cases h) ?_
  rw [pull_prefix (lookup_captured _ _ _).1 hs (Nat.le_add_right f 14)]
  simp only [spec_eq, spec_env, String.reduceBEq, ↓reduceIte, bind_ok h2]
  rfl

/-- one call of `it @ g` when the source is exhausted: ONE call of the source, NO call of the mapper -/
theorem map_call_none (f id : Nat) (r : Ty) (it g dflt : Val) (rest : List Val) (σ σ1 : St)
    (hs : callFn f it [] σ = (.ok (.tup (.bool false :: rest)), σ1)) :
    callFn (f + 19) (mapped id r it g dflt) [] σ = (.ok (.tup [.bool false, dflt]), σ1) := by
  refine callFn0_of_ret (by intro n h; cases h) ?_
  rw [pull_prefix (lookup_captured _ _ _).1 hs (Nat.le_add_right f 14), evalSeq_cons]
  -- the third statement returns: the fourth, with the mapper's call, is not run
  refine bind_error ?_
  simp only [spec_eq, spec_env, String.reduceBEq, ↓reduceIte]
  rfl

theorem map_pull_some (f id : Nat) (r : Ty) (it g dflt x y : Val) (σ σ1 σ2 : St)
    (hs : callFn f it [] σ = (.ok (.tup [.bool true, x]), σ1))
    (hg : callFn f g [x] σ1 = (.ok y, σ2)) :
    pull (f + 20) (mapped id r it g dflt) σ = (.ok (some y), σ2) :=
  pull_of_call (map_call_some f id r it g dflt x y σ σ1 σ2 hs hg)

theorem map_pull_none (f id : Nat) (r : Ty) (it g dflt : Val) (rest : List Val) (σ σ1 : St)
    (hs : callFn f it [] σ = (.ok (.tup (.bool false :: rest)), σ1)) :
    pull (f + 20) (mapped id r it g dflt) σ = (.ok none, σ1) :=
  pull_of_call_none (map_call_none f id r it g dflt rest σ σ1 hs)

theorem Pulls.lift {it : Val} {f g : Nat} {σ σ' : St} {xs : List Val} (h : Pulls it f σ xs σ') (hle : f ≤ g) :
    Pulls it g σ xs σ' := by
  induction h generalizing g with
  | done hp => cases g with
    | zero => omega
    | succ g => exact .done (pull_lift g hp (by omega))
  | more hp _ ih => cases g with
    | zero => omega
    | succ g => exact .more (pull_lift g hp (by omega)) (ih (by omega))

/-- `it`, called repeatedly from `σ` at ONE fuel `f`, returns `(true, x)` for each `x` of `xs` in order and then an end
    marker, leaving `σ'`: `Pulls` at the level of calls; `LL` (`Thm/C11Iter`) is this without the final store -/
inductive Calls (it : Val) (f : Nat) : St → List Val → St → Prop where
  | done {σ σ' : St} {rest : List Val} : callFn f it [] σ = (.ok (.tup (.bool false :: rest)), σ') → Calls it f σ [] σ'
  | more {σ σ1 σ' : St} {x : Val} {xs : List Val} :
      callFn f it [] σ = (.ok (.tup [.bool true, x]), σ1) → Calls it f σ1 xs σ' → Calls it f σ (x :: xs) σ'

/-- pull `k` gets what the call needs and one unit for itself, so `f + 1`; it sits `xs.length - k` levels above the
    last pull, which reports exhaustion at `f + 1`, the index of `Pulls` being one more -/
theorem Calls.pulls {it : Val} {f : Nat} {σ σ' : St} {xs : List Val} (h : Calls it f σ xs σ') :
    Pulls it (f + 2 + xs.length) σ xs σ' := by
  induction h with
  | done hs => exact .done (pull_of_call_none hs)
  | @more _ _ _ _ xs hs _ ih => exact .more (pull_lift (f + 2 + xs.length) (pull_of_call hs) (by omega)) ih

/-- the run of a mapped iterator, element by element: the source is called, and only if it yielded an element
    the mapper is called on it, before the source is called again; `ys` are the mapper's results in order -/
inductive MapRun (it g : Val) (f : Nat) : St → List Val → St → Prop where
  | done {σ σ' : St} {rest : List Val} :
      callFn f it [] σ = (.ok (.tup (.bool false :: rest)), σ') → MapRun it g f σ [] σ'
  | more {σ σ1 σ2 σ' : St} {x y : Val} {ys : List Val} :
      callFn f it [] σ = (.ok (.tup [.bool true, x]), σ1) → callFn f g [x] σ1 = (.ok y, σ2) →
      MapRun it g f σ2 ys σ' → MapRun it g f σ (y :: ys) σ'

theorem MapRun.calls (id : Nat) (r : Ty) (dflt : Val) {it g : Val} {f : Nat} {σ σ' : St} {ys : List Val}
    (h : MapRun it g f σ ys σ') : Calls (mapped id r it g dflt) (f + 19) σ ys σ' := by
  induction h with
  | done hs => exact .done (map_call_none f id r it g dflt _ _ _ hs)
  | more hs hg _ ih => exact .more (map_call_some f id r it g dflt _ _ _ _ _ hs hg) ih

/-- `it @ g` yields `g(x₁) … g(xₙ)`: every pull sequence of the mapped iterator is the run above -/
theorem map_pulls (id : Nat) (r : Ty) (it g dflt : Val) (f : Nat) (σ σ' : St) (ys : List Val)
    (h : MapRun it g f σ ys σ') : Pulls (mapped id r it g dflt) (f + 21 + ys.length) σ ys σ' :=
  (MapRun.calls id r dflt h).pulls

/-- `(it @ g) $]` is `[g(x₁), …, g(xₙ)]` -/
theorem map_collect (id : Nat) (r : Ty) (it g dflt : Val) (f : Nat) (σ σ' : St) (ys acc : List Val)
    (h : MapRun it g f σ ys σ') :
    collectGo (f + 21 + ys.length) (mapped id r it g dflt) acc σ = (.ok (acc.reverse ++ ys), σ') :=
  collectGo_spec _ _ _ _ _ _ (map_pulls id r it g dflt f σ σ' ys h)

/-! ## `it ? p` yields the `xᵢ` with `p(xᵢ)`, in order -/

/-- the iterator value that `it ? p` builds -/
def filtered (id : Nat) (r : Ty) (it p : Val) : Val :=
  .fn id [] r filterBody [("func", it), ("predicate", p)] none

/-- the environment the body of that closure runs in, and the body of the `loop` inside `filterBody` -/
def fenv (it p : Val) : Env := [[], [("func", it), ("predicate", p)]]
def fbody : Expr := .block
      [ .set "res" (.call (.var "func") []),
        .destruct ["con", "value"] (.var "res"),
        .ifElse (.or (.pre .not (.var "con")) (.call (.var "predicate") [.var "value"]))
          (.ret (some (.var "res"))) none ]

theorem filter_body_done (f : Nat) (it p : Val) (rest : List Val) (σ σ1 : St)
    (hs : callFn f it [] σ = (.ok (.tup (.bool false :: rest)), σ1)) :
    bodyOnce (f + 20) (fenv it p) fbody σ = (.error (.ret (.tup (.bool false :: rest))), σ1) := by
  rw [fbody, fenv, bodyOnce_block, pull_prefix (lookup_captured _ _ _).2 hs (Nat.le_add_right f 14)]
  simp only [spec_eq, spec_env, String.reduceBEq, ↓reduceIte]
  rfl

/-- an element `x` of the source: the predicate is called on it, once; `true` passes the source's tuple on, `false`
    lets the loop go round -/
theorem filter_body_some (f : Nat) (it p x : Val) (b : Bool) (σ σ1 σ2 : St)
    (hs : callFn f it [] σ = (.ok (.tup [.bool true, x]), σ1))
    (hp : callFn f p [x] σ1 = (.ok (.bool b), σ2)) :
    bodyOnce (f + 20) (fenv it p) fbody σ = (if b then .error (.ret (.tup [.bool true, x])) else .ok true, σ2) := by
  have h2 := callFn_lift (f + 11) hp (Nat.le_add_right f 11)
  rw [fbody, fenv, bodyOnce_block, pull_prefix (lookup_captured _ _ _).2 hs (Nat.le_add_right f 14)]
  simp only [spec_eq, spec_env, String.reduceBEq, ↓reduceIte, bind_ok h2]
  cases b <;> rfl

/-- one pull of `it ? p`, as a run: the source is called, then - only if it yielded an element - the predicate
    on it; elements the predicate rejects are skipped (`n` of them) before the tuple `t` that the source
    returned last (`(false, …)`, or `(true, x)` with `p(x)`) is passed on unchanged -/
inductive FilterLoop (it p : Val) (f : Nat) : St → Val → St → Nat → Prop where
  | done {σ σ' : St} {rest : List Val} :
      callFn f it [] σ = (.ok (.tup (.bool false :: rest)), σ') →
      FilterLoop it p f σ (.tup (.bool false :: rest)) σ' 0
  | keep {σ σ1 σ2 : St} {x : Val} :
      callFn f it [] σ = (.ok (.tup [.bool true, x]), σ1) → callFn f p [x] σ1 = (.ok (.bool true), σ2) →
      FilterLoop it p f σ (.tup [.bool true, x]) σ2 0
  | skip {σ σ1 σ2 σ' : St} {x t : Val} {n : Nat} :
      callFn f it [] σ = (.ok (.tup [.bool true, x]), σ1) → callFn f p [x] σ1 = (.ok (.bool false), σ2) →
      FilterLoop it p f σ2 t σ' n → FilterLoop it p f σ t σ' (n + 1)

theorem filter_loop (it p : Val) (f : Nat) (σ σ' : St) (t : Val) (n : Nat) (h : FilterLoop it p f σ t σ' n) :
    loopGo (f + 21 + n) (fenv it p) fbody σ = (.error (.ret t), σ') := by
  induction h with
  | done hs => exact loopGo_error _ _ (filter_body_done f it p _ _ _ hs)
  | keep hs hp => exact loopGo_error _ _ (filter_body_some f it p _ true _ _ _ hs hp)
  | @skip σ σ1 σ2 σ' x t n hs hp _ ih =>
    exact (loopGo_again _ _ (((mono (show f + 20 ≤ f + 21 + n by omega)).bodyOnce _ _).ok
      (filter_body_some f it p x false σ σ1 σ2 hs hp))).trans ih

/-- one CALL of `it ? p` returns the source's last tuple (composable: the filtered iterator as a source) -/
theorem filter_call (id : Nat) (r : Ty) (it p : Val) (f : Nat) (σ σ' : St) (t : Val) (n : Nat)
    (h : FilterLoop it p f σ t σ' n) :
    callFn (f + 25 + n) (filtered id r it p) [] σ = (.ok t, σ') := by
  rw [show f + 25 + n = (f + 21 + n) + 4 by omega]
  exact callFn_loop_ret (filter_loop it p f σ σ' t n h)

theorem filter_pull (id : Nat) (r : Ty) (it p : Val) (f : Nat) (σ σ' : St) (t : Val) (n : Nat)
    (h : FilterLoop it p f σ t σ' n) (o : Option Val) (ho : pullResult t = some o) :
    pull (f + 26 + n) (filtered id r it p) σ = (.ok o, σ') := by
  rw [show f + 26 + n = (f + 25 + n) + 1 by omega]
  exact pull_of_result (filter_call id r it p f σ σ' t n h) ho

/-- the run of a filtered iterator until exhaustion: `xs` are the elements that reached the consumer, each
    preceded by at most `N` rejected ones -/
inductive FilterRun (it p : Val) (f N : Nat) : St → List Val → St → Prop where
  | done {σ σ' : St} {rest : List Val} {n : Nat} :
      FilterLoop it p f σ (.tup (.bool false :: rest)) σ' n → n ≤ N → FilterRun it p f N σ [] σ'
  | more {σ σ1 σ' : St} {x : Val} {xs : List Val} {n : Nat} :
      FilterLoop it p f σ (.tup [.bool true, x]) σ1 n → n ≤ N →
      FilterRun it p f N σ1 xs σ' → FilterRun it p f N σ (x :: xs) σ'

theorem FilterRun.calls (id : Nat) (r : Ty) {it p : Val} {f N : Nat} {σ σ' : St} {xs : List Val}
    (h : FilterRun it p f N σ xs σ') : Calls (filtered id r it p) (f + 25 + N) σ xs σ' := by
  induction h with
  | done hl hn => exact .done (callFn_lift _ (filter_call id r it p f _ _ _ _ hl) (by omega))
  | more hl hn _ ih => exact .more (callFn_lift _ (filter_call id r it p f _ _ _ _ hl) (by omega)) ih

/-- `it ? p` yields exactly the accepted elements, in order -/
theorem filter_pulls (id : Nat) (r : Ty) (it p : Val) (f N : Nat) (σ σ' : St) (xs : List Val)
    (h : FilterRun it p f N σ xs σ') : Pulls (filtered id r it p) (f + 27 + N + xs.length) σ xs σ' := by
  have := (FilterRun.calls id r h).pulls
  rwa [show f + 25 + N + 2 + xs.length = f + 27 + N + xs.length by omega] at this

/-- `(it ? p) $]` is the array of the accepted elements -/
theorem filter_collect (id : Nat) (r : Ty) (it p : Val) (f N : Nat) (σ σ' : St) (xs acc : List Val)
    (h : FilterRun it p f N σ xs σ') :
    collectGo (f + 27 + N + xs.length) (filtered id r it p) acc σ = (.ok (acc.reverse ++ xs), σ') :=
  collectGo_spec _ _ _ _ _ _ (filter_pulls id r it p f N σ σ' xs h)

/-- what the source yielded during one pull of the filter and what the predicate said of each element:
    the element passed on is the LAST one, it is the only accepted one -/
theorem FilterLoop.last_only {it p : Val} {f : Nat} {σ σ' : St} {t : Val} {n : Nat}
    (h : FilterLoop it p f σ t σ' n) : n = 0 ∨ ∃ σ1 σ2 x, callFn f it [] σ = (.ok (.tup [.bool true, x]), σ1) ∧
      callFn f p [x] σ1 = (.ok (.bool false), σ2) := by
  cases h with
  | done _ => exact Or.inl rfl
  | keep _ _ => exact Or.inl rfl
  | skip hs hp _ => exact Or.inr ⟨_, _, _, hs, hp⟩

/-! ## `it $ init g` is the left fold and `it \ p` the ordered split, for sources of any length -/

/-- `it $ init g` with a callback that behaves as the function `h` (at every fuel from `f0` on, leaving the store
    alone): the result is `foldl h init [x₁ … xₙ]`, the source being pulled exactly as `Pulls` says -/
theorem reduce_fn_spec (it g : Val) (h : Val → Val → Val) (f0 : Nat)
    (hg : ∀ k acc x σ, f0 ≤ k → callFn k g [acc, x] σ = (.ok (h acc x), σ)) :
    ∀ (F : Nat) (σ σ' : St) (xs : List Val) (acc : Val), Pulls it F σ xs σ' → f0 + xs.length + 1 ≤ F →
      reduceGo F it acc (.inr g) σ = (.ok (xs.foldl h acc), σ') := by
  intro F σ σ' xs acc hp
  induction hp generalizing acc with
  | done hp => intro _; rw [reduce_step, bind_ok hp]; rfl
  | @more f σ σ1 σ' x xs hp _ ih =>
    intro hF
    simp only [List.length_cons] at hF
    rw [reduce_step, bind_ok hp]
    exact (bind_ok (hg f acc x σ1 (by omega))).trans (ih (h acc x) (by omega))

/-- the effectful version: the run of `it $ init g` - pull, then the callback on (accumulator, element), then the
    next pull - ends in the last accumulator -/
inductive FoldRun (it g : Val) : Nat → St → Val → Val → St → Prop where
  | done {f : Nat} {σ σ' : St} {acc : Val} : pull f it σ = (.ok none, σ') → FoldRun it g (f + 1) σ acc acc σ'
  | step {f : Nat} {σ σ1 σ2 σ' : St} {acc acc' r x : Val} :
      pull f it σ = (.ok (some x), σ1) → callFn f g [acc, x] σ1 = (.ok acc', σ2) →
      FoldRun it g f σ2 acc' r σ' → FoldRun it g (f + 1) σ acc r σ'

theorem reduce_run (it g : Val) (F : Nat) (σ σ' : St) (acc r : Val) (h : FoldRun it g F σ acc r σ') :
    reduceGo F it acc (.inr g) σ = (.ok r, σ') := by
  induction h with
  | done hp => rw [reduce_step, bind_ok hp]; rfl
  | step hp hc _ ih => rw [reduce_step, bind_ok hp]; exact (bind_ok hc).trans ih

/-- `it \ p` with a predicate that behaves as the test `q`: (those with `q`, those without), each in source order -/
theorem partition_spec (it p : Val) (q : Val → Bool) (f0 : Nat)
    (hq : ∀ k x σ, f0 ≤ k → callFn k p [x] σ = (.ok (.bool (q x)), σ)) :
    ∀ (F : Nat) (σ σ' : St) (xs l r : List Val), Pulls it F σ xs σ' → f0 + xs.length + 1 ≤ F →
      partitionGo F it p l r σ =
        (.ok (l.reverse ++ xs.filter q, r.reverse ++ xs.filter (fun x => !q x)), σ') := by
  intro F σ σ' xs l r hp
  induction hp generalizing l r with
  | done hp => intro _; rw [partition_step, bind_ok hp]; simp [pure_def]
  | @more f σ σ1 σ' x xs hp _ ih =>
    intro hF
    simp only [List.length_cons] at hF
    rw [partition_step, bind_ok hp]
    refine (bind_ok (hq f x σ1 (by omega))).trans ?_
    cases hx : q x
    · exact (ih l (x :: r) (by omega)).trans (by simp [List.filter, hx])
    · exact (ih (x :: l) r (by omega)).trans (by simp [List.filter, hx])

/-! ## `it ? T` yields the `xᵢ` whose run-time type matches `T`, in order -/

/-- the iterator value that `it ? T` builds -/
def typeFiltered (id : Nat) (t : Ty) (it dflt : Val) : Val :=
  .fn id [] (.tup [.bool, t]) (typeFilterBody t) [("iterator", it), ("default", dflt)] none

/-- the environment the body of that closure runs in, and the body of the `loop` inside `typeFilterBody t` -/
def tfenv (it dflt : Val) : Env := [[], [("iterator", it), ("default", dflt)]]
def tfbody (t : Ty) : Expr := .block
      [ .set "res" (.call (.var "iterator") []),
        .destruct ["con", "value"] (.var "res"),
        .ifElse (.pre .not (.var "con")) (.ret (some (.tuple [E_false, .var "default"]))) none,
        .ifSet "value" t (.var "value") (.ret (some (.tuple [E_true, .var "value"]))) none ]

theorem tfilter_body_done (f : Nat) (t : Ty) (it dflt : Val) (rest : List Val) (σ σ1 : St)
    (hs : callFn f it [] σ = (.ok (.tup (.bool false :: rest)), σ1)) :
    bodyOnce (f + 20) (tfenv it dflt) (tfbody t) σ = (.error (.ret (.tup [.bool false, dflt])), σ1) := by
  rw [tfbody, tfenv, bodyOnce_block, pull_prefix (lookup_captured _ _ _).2 hs (Nat.le_add_right f 14), evalSeq_cons]
  -- the third statement returns: the fourth, with the type test, is not run
  refine congrArg blockOutcome (bind_error (e := .ret (.tup [.bool false, dflt])) (σ1 := σ1) ?_)
  simp only [spec_eq, spec_env, String.reduceBEq, ↓reduceIte]
  rfl

/-- an element `x` of the source: passed on if its run-time type is below `T`, else the loop goes round -/
theorem tfilter_body_some (f : Nat) (t : Ty) (it dflt x : Val) (b : Bool) (σ σ1 : St)
    (hs : callFn f it [] σ = (.ok (.tup [.bool true, x]), σ1)) (ht : x.asType.sub t = b) :
    bodyOnce (f + 20) (tfenv it dflt) (tfbody t) σ = (if b then .error (.ret (.tup [.bool true, x])) else .ok true, σ1) := by
  rw [tfbody, tfenv, bodyOnce_block, pull_prefix (lookup_captured _ _ _).2 hs (Nat.le_add_right f 14)]
  simp only [spec_eq, spec_env, String.reduceBEq, ↓reduceIte, ht]
  cases b <;> rfl

/-- one pull of `it ? T`: elements whose run-time type does not match are skipped (`n` of them); `o` is what the
    pull yields - the first matching element, unchanged, or exhaustion -/
inductive TFLoop (it : Val) (t : Ty) (f : Nat) : St → Option Val → St → Nat → Prop where
  | done {σ σ' : St} {rest : List Val} :
      callFn f it [] σ = (.ok (.tup (.bool false :: rest)), σ') → TFLoop it t f σ none σ' 0
  | keep {σ σ1 : St} {x : Val} :
      callFn f it [] σ = (.ok (.tup [.bool true, x]), σ1) → x.asType.sub t = true → TFLoop it t f σ (some x) σ1 0
  | skip {σ σ1 σ' : St} {x : Val} {o : Option Val} {n : Nat} :
      callFn f it [] σ = (.ok (.tup [.bool true, x]), σ1) → x.asType.sub t = false →
      TFLoop it t f σ1 o σ' n → TFLoop it t f σ o σ' (n + 1)

/-- the tuple `it ? T` returns for what its loop found -/
def tfTuple (dflt : Val) : Option Val → Val
  | none => .tup [.bool false, dflt]
  | some x => .tup [.bool true, x]

theorem tfilter_loop (it dflt : Val) (t : Ty) (f : Nat) (σ σ' : St) (o : Option Val) (n : Nat)
    (h : TFLoop it t f σ o σ' n) :
    loopGo (f + 21 + n) (tfenv it dflt) (tfbody t) σ = (.error (.ret (tfTuple dflt o)), σ') := by
  induction h with
  | done hs => exact loopGo_error _ _ (tfilter_body_done f t it dflt _ _ _ hs)
  | keep hs ht => exact loopGo_error _ _ (tfilter_body_some f t it dflt _ true _ _ hs ht)
  | @skip σ σ1 σ' x o n hs ht _ ih =>
    exact (loopGo_again _ _ (((mono (show f + 20 ≤ f + 21 + n by omega)).bodyOnce _ _).ok
      (tfilter_body_some f t it dflt x false σ σ1 hs ht))).trans ih

theorem tfilter_call (id : Nat) (it dflt : Val) (t : Ty) (f : Nat) (σ σ' : St) (o : Option Val) (n : Nat)
    (h : TFLoop it t f σ o σ' n) :
    callFn (f + 25 + n) (typeFiltered id t it dflt) [] σ = (.ok (tfTuple dflt o), σ') := by
  rw [show f + 25 + n = (f + 21 + n) + 4 by omega]
  exact callFn_loop_ret (tfilter_loop it dflt t f σ σ' o n h)

/-- the run of `it ? T` until exhaustion -/
inductive TFRun (it : Val) (t : Ty) (f N : Nat) : St → List Val → St → Prop where
  | done {σ σ' : St} {n : Nat} : TFLoop it t f σ none σ' n → n ≤ N → TFRun it t f N σ [] σ'
  | more {σ σ1 σ' : St} {x : Val} {xs : List Val} {n : Nat} :
      TFLoop it t f σ (some x) σ1 n → n ≤ N → TFRun it t f N σ1 xs σ' → TFRun it t f N σ (x :: xs) σ'

theorem TFRun.calls (id : Nat) (dflt : Val) {it : Val} {t : Ty} {f N : Nat} {σ σ' : St} {xs : List Val}
    (h : TFRun it t f N σ xs σ') : Calls (typeFiltered id t it dflt) (f + 25 + N) σ xs σ' := by
  induction h with
  | done hl hn => exact .done (callFn_lift _ (tfilter_call id it dflt t f _ _ none _ hl) (by omega))
  | more hl hn _ ih => exact .more (callFn_lift _ (tfilter_call id it dflt t f _ _ (some _) _ hl) (by omega)) ih

/-- `it ? T` yields exactly the elements whose run-time type matches `T`, in order -/
theorem tfilter_pulls (id : Nat) (it dflt : Val) (t : Ty) (f N : Nat) (σ σ' : St) (xs : List Val)
    (h : TFRun it t f N σ xs σ') : Pulls (typeFiltered id t it dflt) (f + 27 + N + xs.length) σ xs σ' := by
  have := (TFRun.calls id dflt h).pulls
  rwa [show f + 25 + N + 2 + xs.length = f + 27 + N + xs.length by omega] at this

/-- every element a `? T` iterator yields has a run-time type below `T` -/
theorem TFLoop.matches {it : Val} {t : Ty} {f : Nat} {σ σ' : St} {x : Val} {n : Nat}
    (h : TFLoop it t f σ (some x) σ' n) : x.asType.sub t = true := by
  generalize ho : some x = o at h
  induction h with
  | done _ => cases ho
  | keep _ ht => cases ho; exact ht
  | skip _ _ _ ih => exact ih ho

/-! ## chains: the conclusions above are call results, i.e. the hypotheses of the next operator -/

/-- `(it @ g) ? p`, an element that passes: source, mapper, predicate - each once, in that order - and the pull yields
    the MAPPED element -/
theorem filter_of_map_keep (f id id2 : Nat) (r r2 : Ty) (it g dflt p x y : Val) (σ σ1 σ2 σ3 : St)
    (hs : callFn f it [] σ = (.ok (.tup [.bool true, x]), σ1))
    (hg : callFn f g [x] σ1 = (.ok y, σ2))
    (hp : callFn (f + 19) p [y] σ2 = (.ok (.bool true), σ3)) :
    pull (f + 19 + 26 + 0) (filtered id2 r2 (mapped id r it g dflt) p) σ = (.ok (some y), σ3) :=
  filter_pull id2 r2 _ p (f + 19) σ σ3 _ 0 (.keep (map_call_some f id r it g dflt x y σ σ1 σ2 hs hg) hp) (some y) rfl

/-- `(it ? p) @ g`, after `n` rejected elements: the mapper is called ONCE, on the accepted element only -/
theorem map_of_filter_some (f id id2 : Nat) (r r2 : Ty) (it p g dflt x y : Val) (n : Nat) (σ σ1 σ2 : St)
    (hl : FilterLoop it p f σ (.tup [.bool true, x]) σ1 n)
    (hg : callFn (f + 25 + n) g [x] σ1 = (.ok y, σ2)) :
    pull (f + 25 + n + 20) (mapped id2 r2 (filtered id r it p) g dflt) σ = (.ok (some y), σ2) :=
  map_pull_some (f + 25 + n) id2 r2 _ g dflt x y σ σ1 σ2 (filter_call id r it p f σ σ1 _ n hl) hg

/-! ## `for x in it body` visits `x₁ … xₙ` -/

/-- the run of a `for` loop: one pull, then the body once with `x` bound to the element (in a frame of its own),
    then the next call of the source; it ends when the source is exhausted or the body breaks.  `vs` are the elements the body
    ran on, in order.  (`for` calls the iterator directly: one call per element, as `pull` would.) -/
inductive ForRun (env : Env) (x : String) (it : Val) (body : Expr) : Nat → St → List Val → St → Prop where
  | done {f : Nat} {σ σ' : St} {w : Val} :
      callFn f it [] σ = (.ok (.tup [.bool false, w]), σ') → ForRun env x it body (f + 1) σ [] σ'
  | step {f : Nat} {σ σ1 σ2 σ' : St} {v : Val} {vs : List Val} :
      callFn f it [] σ = (.ok (.tup [.bool true, v]), σ1) →
      bodyOnce f ([(x, v), ("$con", .bool true)] :: env) body σ1 = (.ok true, σ2) →
      ForRun env x it body f σ2 vs σ' → ForRun env x it body (f + 1) σ (v :: vs) σ'
  | brk {f : Nat} {σ σ1 σ2 : St} {v : Val} :
      callFn f it [] σ = (.ok (.tup [.bool true, v]), σ1) →
      bodyOnce f ([(x, v), ("$con", .bool true)] :: env) body σ1 = (.ok false, σ2) →
      ForRun env x it body (f + 1) σ [v] σ2

/-- a `for` loop is its run and evaluates to `()` -/
theorem for_run (env : Env) (x : String) (it : Val) (body : Expr) (F : Nat) (σ σ' : St) (vs : List Val)
    (h : ForRun env x it body F σ vs σ') : forGo F env x it body σ = (.ok .unit, σ') := by
  induction h with
  | done hp => rw [forGo_succ, bind_ok hp]; rfl
  | step hp hb _ ih => rw [forGo_succ, bind_ok hp]; exact (bind_ok hb).trans ih
  | brk hp hb => rw [forGo_succ, bind_ok hp]; exact bind_ok hb

/-- without `break`, the elements the body runs on are exactly the elements the source yields, in order -/
theorem ForRun.visits_all {env : Env} {x : String} {it : Val} {body : Expr} {F : Nat} {σ σ' : St} {vs : List Val}
    (h : ForRun env x it body F σ vs σ')
    (hnb : ∀ f v σ1 σ2, bodyOnce f ([(x, v), ("$con", .bool true)] :: env) body σ1 ≠ (.ok false, σ2)) :
    ∀ v ∈ vs, ∃ f σ0 σ1, callFn f it [] σ0 = (.ok (.tup [.bool true, v]), σ1) := by
  induction h with
  | done _ => intro v hv; cases hv
  | step hp _ _ ih =>
    intro v hv
    cases hv with
    | head => exact ⟨_, _, _, hp⟩
    | tail _ hv => exact ih v hv
  | brk hp hb => exact absurd hb (hnb _ _ _ _)

/-! ## non-vacuity: a source that yields `7` (constant closure) and the identity mapper make one `more` step;
    an exhausted source makes a `done` run (the calls of the concrete closures at fuel 10: by evaluation) -/
def srcSeven : Val := .fn 0 [] (.tup [.bool, .int]) [.ret (some (.tuple [E_true, .litInt 7]))] [] none
def srcEmpty : Val := .fn 1 [] (.tup [.bool, .int]) [.ret (some (.tuple [E_false, .litInt 0]))] [] none
def idFn : Val := .fn 2 [("v", .int)] .int [.ret (some (.var "v"))] [] none

example : pull 30 (mapped 3 .int srcSeven idFn (.int 0)) {} = (.ok (some (.int (BitVec.ofInt 64 7))), {}) :=
  map_pull_some 10 3 .int srcSeven idFn (.int 0) (.int (BitVec.ofInt 64 7)) (.int (BitVec.ofInt 64 7)) {} {} {} rfl rfl

example : MapRun srcEmpty idFn 10 {} [] {} :=
  .done (rest := [.int (BitVec.ofInt 64 0)]) rfl

end Ssl.C11
