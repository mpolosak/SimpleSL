import SslModel.Lemmas.SpecEq
/-!
# C06 — lexical scoping; closures capture by value at creation

Theorems about the reference semantics `Ssl.Spec` (to which the implementation is tied by the
`prog` correspondence stream, see tools/props/c06.py).

In `Spec`, **expressions return no environment** (`eval : Nat → Env → Expr → M Val`): only the
statement sequencer `evalSeq` returns one.  "Declarations made inside a block, module, loop body,
match arm, if-set body or function body are invisible after it" is therefore true by the type of
`eval`; the theorems below state what each construct does with the frames it pushes, how names
resolve, what a closure captures and what a callee can see.  Three of the claims are equations of
`Lemmas/SpecEq` and stand there: a declaration is found under its name and changes no other name
(`Spec.lookup_insert_same` / `_other`), likewise an inner frame (`Spec.lookup_inner_frame` / `_other`),
and the body of a callee runs in `calleeEnv` of the function value and the arguments alone - `callFn`
does not even receive the caller's environment (`Spec.callFn_closure`).
-/
namespace Ssl.C06
open Ssl Ssl.Spec

/-! ## a name denotes the nearest preceding declaration -/

theorem frameLookup_cons_same (x : String) (v : Val) (fr : Frame) :
    frameLookup x ((x, v) :: fr) = some v := by
  simp [frameLookup]

theorem frameLookup_cons_other (x y : String) (v : Val) (fr : Frame) (h : (x == y) = false) :
    frameLookup y ((x, v) :: fr) = frameLookup y fr := by
  simp [frameLookup, h]

/-- popping the frame restores every outer binding (the frame was never merged into them) -/
theorem outer_unchanged_by_inner_frame (env : Env) (fr : Frame) :
    (fr :: env).tail = env := rfl

/-! ## what a closure captures: a snapshot that resolves names exactly as the environment did -/

theorem snapshot_lookup (env : Env) (x : String) :
    Env.lookup [env.snapshot] x = env.lookup x := by
  rw [lookup_single]
  induction env with
  | nil => rfl
  | cons fr rest ih =>
    -- both sides look in `fr` first: the flattened list by `frameLookup_append`, the environment by definition
    show frameLookup x (fr ++ rest.flatten) = (match frameLookup x fr with
      | some v => some v
      | none => Env.lookup rest x)
    rw [frameLookup_append, ← ih]
    rfl

/-- creating a function value copies the visible bindings *now*; nothing later can change them
    (the value holds the list, not a reference to the environment) -/
theorem fn_captures_snapshot (f : Nat) (env : Env) (ps : List (String × Ty)) (r : Ty)
    (body : List Expr) (σ : St) :
    eval (f + 1) env (.fn ps r body) σ =
      (.ok (.fn σ.nextId ps r body env.snapshot none), { σ with nextId := σ.nextId + 1 }) :=
  rfl

/-- a declared function additionally knows its own name -/
theorem fndecl_binds_self (f : Nat) (env : Env) (x : String) (ps : List (String × Ty)) (r : Ty)
    (body : List Expr) (σ : St) :
    evalStmt (f + 1) env (.fndecl x ps r body) σ =
      (.ok (.fn σ.nextId ps r body env.snapshot (some x),
            env.insert x (.fn σ.nextId ps r body env.snapshot (some x))),
       { σ with nextId := σ.nextId + 1 }) :=
  rfl

/-! ## what a callee can see: captured values, its own name, its parameters — never the caller -/

/-- the callee's environment: its parameters first, then its own name, then what it captured -/
theorem callee_env_shape (fv : Val) (ps : List (String × Ty)) (cap : Frame) (x : String) (args : List Val) :
    calleeEnv fv ps cap (some x) args = [((List.zip (ps.map (·.1)) args)).reverse ++ [(x, fv)], cap] ∧
    calleeEnv fv ps cap none args = [((List.zip (ps.map (·.1)) args)).reverse ++ [], cap] := ⟨rfl, rfl⟩

/-- a call depends on the caller's environment only through the values of the callee expression
    and of the arguments -/
theorem call_uses_only_values (f : Nat) (env env' : Env) (g : Expr) (args : List Expr)
    (hg : eval f env g = eval f env' g) (ha : evalList f env args = evalList f env' args) :
    eval (f + 1) env (.call g args) = eval (f + 1) env' (.call g args) := by
  rw [eval_call, eval_call, hg, ha]

theorem block_pushes_and_drops_frame (f : Nat) (env : Env) (body : List Expr) :
    eval (f + 1) env (.block body) = (do
      let (v, _) ← evalSeq f ([] :: env) body
      pure v) :=
  eval_block f env body

/-- a module yields exactly the names declared at its own top level (latest declaration of each) -/
theorem module_exports (f : Nat) (env : Env) (body : List Expr) :
    eval (f + 1) env (.modE body) = (do
      let (_, env') ← evalSeq f ([] :: env) body
      match env' with
      | fr :: _ => pure (.struct (frameFields fr))
      | [] => wrong "module without frame") :=
  rfl

theorem ifset_binds_only_in_body (f : Nat) (env : Env) (x : String) (ty : Ty) (e body : Expr)
    (els : Option Expr) :
    eval (f + 1) env (.ifSet x ty e body els) = (do
      let v ← eval f env e
      if Ty.sub v.asType ty then eval f ([(x, v)] :: env) body
      else match els with
        | some e => eval f env e
        | none => pure .unit) :=
  eval_ifSet f env x ty e body els

theorem type_arm_binds_only_in_body (f : Nat) (env : Env) (v : Val) (x : String) (t : Ty)
    (body : Expr) (rest : List Arm) :
    evalArms (f + 1) env v (.ty x t body :: rest) =
      (if Ty.sub v.asType t then eval f ([(x, v)] :: env) body else evalArms f env v rest) :=
  rfl

theorem for_binds_only_in_body (f : Nat) (env : Env) (x : String) (it : Val) (body : Expr) :
    forGo (f + 1) env x it body = (do
      let r ← callFn f it []
      match r with
      | .tup [.bool c, v] =>
        if c then do
          let go ← bodyOnce f ([(x, v), ("$con", .bool c)] :: env) body
          if go then forGo f env x it body else pure .unit
        else pure .unit
      | _ => wrong "for over something that is not an iterator") :=
  forGo_succ f env x it body

example : Env.lookup ([("x", Val.int 1)] :: [[("x", Val.int 2), ("y", Val.int 3)]]) "y" = some (Val.int 3) := by
  simp [Env.lookup, frameLookup]

end Ssl.C06
