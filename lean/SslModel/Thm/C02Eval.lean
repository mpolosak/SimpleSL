import SslModel.Thm.C01OutcomesFn
/-!
# C01 / C02 (stage 2) — soundness and progress at the level of the evaluator, for the first-order fragment

For what `Check.tyOf` types: the evaluator never reaches `wrong` (`C02.eval_not_wrong`, `C02.program_not_wrong`), and a value
it ends in inhabits the static type and is `plain` (`C01.eval_sound`, `C01.program_sound`).  Both are the outcome theorem
with functions read at a first-order expression: whatever `tyOf` answers `tyF` answers, a first-order value is a good
value, and a declared type that is not well-formed is never looked at by either model, so `any` can stand in for it
(`clean`).  What that theorem cannot say is that the value is first-order (a variable of type `any` may hold anything):
that is an induction of its own, `fo_all`, in which types play no part.
-/
namespace Ssl.C02
open Ssl Ssl.Ty Ssl.Val Ssl.Spec Ssl.Check Ssl.CheckF Ssl.C01

theorem bindM_err {α β} {m : M α} {k : α → M β} {σ σ' : St} {e : Sig} (h : (m >>= k) σ = (.error e, σ')) :
    m σ = (.error e, σ') ∨ ∃ a σ1, m σ = (.ok a, σ1) ∧ k a σ1 = (.error e, σ') :=
  bind_eq_error h

/-- the static environment with `any` in place of every declared type that is not well-formed -/
def clean (g : TEnv) : TEnv := g.map fun p => (p.1, if wf p.2 then p.2 else .any)

theorem lookup_clean (x : String) : ∀ g : TEnv, (clean g).lookup x = (g.lookup x).map fun t => if wf t then t else .any
  | [] => rfl
  | (y, t) :: g => by
    simp only [clean, List.map_cons, TEnv.lookup]
    split
    · rfl
    · exact lookup_clean x g

theorem envLe_clean (g : TEnv) : EnvLe g (clean g) := by
  intro x t h w
  rw [lookup_clean, h]; simp [w]

theorem lookup_clean_some {g : TEnv} {x : String} {t : Ty} (h : (clean g).lookup x = some t) :
    ∃ u, g.lookup x = some u ∧ t = if wf u then u else .any := by
  rw [lookup_clean] at h
  cases hl : g.lookup x with
  | none => rw [hl] at h; cases h
  | some u => rw [hl] at h; cases h; exact ⟨u, rfl, rfl⟩

theorem gwf_clean (g : TEnv) : CF.GWf (clean g) := by
  intro x t h
  obtain ⟨u, -, rfl⟩ := lookup_clean_some h
  split
  · assumption
  · rfl

theorem envOkG_clean {env : Env} {g : TEnv} (h : EnvOk env g) : CF.EnvOkG env (clean g) := by
  intro x t hx
  obtain ⟨u, hl, rfl⟩ := lookup_clean_some hx
  obtain ⟨v, hv, hs, hp⟩ := h x u hl
  refine ⟨v, hv, ?_, inv_of_plain CF.good_inv hp⟩
  split
  · exact hs
  · exact sub_any _

theorem eval_outcome_fo (f : Nat) {g : TEnv} {env : Env} {e : Expr} {T : Ty} (σ : St) (henv : EnvOk env g)
    (ht : tyOf g e = .ok T) : CF.OutP none (fun v => CF.VT T v ∧ hasTy v T = true) (eval f env e σ) :=
  CF.eval_outcome f none (clean g) env e T σ (envOkG_clean henv) (gwf_clean g) (fun _ h => by cases h)
    (tyOf_le none (envLe_clean g) e T ht)

theorem tyOfProgram_le (prog : List Expr) : (tyOfProgram prog).Le (tyFProgram [] prog) := by
  intro T ht
  obtain ⟨p, hp, h⟩ := Res.bind_ok ht
  cases h
  obtain ⟨ts, g1, h1, h2, _⟩ := tyOfSeq_le none (EnvLe.refl []) prog p.1 p.2 hp
  simp only [tyFProgram, h1, Res.bind, h2]

/-- an outcome is never `wrong`: the only signals it admits are a well-typed `return`, a documented error and fuel -/
theorem not_wrong_of_outP {α} {ret : Option Ty} {P : α → Prop} {r : Except Sig α × St} (h : CF.OutP ret P r) :
    isWrong r.1 = false := by
  unfold CF.OutP at h
  cases hr : r.1 with
  | ok v => rfl
  | error s => rw [hr] at h; cases s <;> first | rfl | cases h

/-- **progress, first-order fragment**: an expression the checker model types never goes `wrong` - whatever the
    fuel, store and (type-respecting) environment, the evaluator ends in a value, one of the documented run-time errors,
    or runs out of fuel; it never reaches a state the implementation could only answer with a panic -/
theorem eval_not_wrong (f : Nat) (g : TEnv) (env : Env) (e : Expr) (T : Ty) (σ : St)
    (henv : EnvOk env g) (ht : tyOf g e = .ok T) : isWrong (eval f env e σ).1 = false :=
  not_wrong_of_outP (eval_outcome_fo f σ henv ht)

/-- the same for whole programs from the empty environment -/
theorem program_not_wrong (f : Nat) (prog : List Expr) (T : Ty) (σ : St) (ht : tyOfProgram prog = .ok T) :
    isWrong (evalSeq f [[]] prog σ).1 = false := by
  obtain ⟨p, hp, -⟩ := Res.bind_ok (tyOfProgram_le prog T ht)
  exact not_wrong_of_outP (CS.program_seq .F f hp (σ := σ) trivial)

end Ssl.C02

namespace Ssl.C01
open Ssl Ssl.Ty Ssl.Val Ssl.Spec Ssl.Check Ssl.CheckF Ssl.C02 Ssl.Fold

/-- what an operator's own function yields when it yields a value: a first-order one -/
def FoOk (r : Except Sig Val) : Prop := ∀ v, r = .ok v → fo v = true

theorem FoOk.ofScalar (r : Except ExecErr Scalar) : FoOk (Spec.ofScalar r) := by
  intro v h
  unfold Spec.ofScalar at h
  split at h <;> cases h <;> rfl

theorem FoOk.ok {v : Val} (h : fo v = true) : FoOk (.ok v) := fun _ e => by cases e; exact h

theorem FoOk.error (s : Sig) : FoOk (.error s) := nofun

theorem fo_concatArrays {t1 t2 : Ty} {a b : List Val} (ha : fo (.arr t1 a) = true) (hb : fo (.arr t2 b) = true) :
    fo (concatArrays t1 a t2 b) = true := by
  unfold concatArrays
  repeat' split
  all_goals simp_all only [fo, foL_append, Bool.and_self]

/-- every arm of `binScalar` is `ofScalar ..`, a scalar, `+` on arrays - which holds the elements of the operands - or `wrong` -/
theorem binScalar_foOk {op : BinOp} {x y : Val} (hx : fo x = true) (hy : fo y = true) : FoOk (binScalar op x y) := by
  unfold binScalar
  split <;> first | exact .ofScalar _ | exact .ok rfl | exact .ok (fo_concatArrays hx hy) | exact .error _

theorem preScalar_foOk (op : PreOp) (x : Val) : FoOk (preScalar op x) := by
  unfold preScalar
  split <;> first | exact .ok rfl | exact .error _

theorem fo_atVal {x i v : Val} (hx : fo x = true) (h : atVal x i = .ok v) : fo v = true := by
  unfold atVal at h
  repeat' (first | split at h | dsimp only at h)
  all_goals cases h
  · rename_i hw
    exact foL_mem (by simpa only [fo] using hx) (List.mem_of_getElem? hw)
  · rfl

theorem fo_sliceVal {x v : Val} {a b c : Option Val} (hx : fo x = true) (h : sliceVal x a b c = .ok v) : fo v = true := by
  simp only [sliceVal, bind, Except.bind] at h
  repeat' split at h
  all_goals cases h
  · simp only [Val.mkArray, fo] at hx ⊢
    exact foL_of_mem _ fun z hz => foL_mem hx (slice_mem _ _ _ _ z hz)
  · rfl

abbrev FoEnv (env : Env) (g : TEnv) : Prop := EnvRel (fun _ v => fo v = true) env g

/-- what the evaluator does, with fuel `f`, to an environment of first-order values: a typed expression, list, arm or
    statement yields first-order values only, and a statement extends the environment by such values.  The static type
    says no more here than that the expression is of the fragment, and which of its variables are bound -/
structure Fo (f : Nat) : Prop where
  e : ∀ {g env e}, FoEnv env g → (tyOf g e).All fun _ => Post (eval f env e) (fo · = true)
  l : ∀ {g env es}, FoEnv env g → (tyOfList g es).All fun _ => Post (evalList f env es) (foL · = true)
  v : ∀ {g env e}, FoEnv env g → (tyOf g e).All fun _ => Post (evalStmtValue f env e) (fo · = true)
  st : ∀ {g env s}, FoEnv env g →
    (tyOfStmt g s).All fun p => Post (evalStmt f env s) fun r => fo r.1 = true ∧ FoEnv r.2 p.2
  s : ∀ {g env body}, FoEnv env g →
    (tyOfSeq g body).All fun p => Post (evalSeq f env body) fun r => fo r.1 = true ∧ FoEnv r.2 p.2
  a : ∀ {g env v arms}, FoEnv env g → fo v = true → (tyOfArms g arms).All fun _ => Post (evalArms f env v arms) (fo · = true)

theorem fo_step {f : Nat} (ih : Fo f) : Fo (f + 1) where
  e := by
    intro g env e henv
    cases e with
    | litBool _ | litInt _ | litFloat _ | litStr _ | litUnit => simp only [eval]; exact fun _ _ => .pure rfl
    | var x =>
      simp only [tyOf]
      split
      · rename_i t hl
        obtain ⟨w, hw, fw⟩ := henv x t hl
        simp only [eval, hw]
        exact fun _ _ => .pure fw
      · exact .ill
    | array es =>
      simp only [tyOf, eval]
      exact .bind fun ts hts _ _ => (ih.l henv _ hts).bind2 fun vs fvs => .pure (by simpa only [Val.mkArray, fo] using fvs)
    | tuple es =>
      simp only [tyOf, eval]
      exact .ite .unsup (.bind fun ts hts _ _ => (ih.l henv _ hts).bind2 fun vs fvs => .pure (by simpa only [fo] using fvs))
    | pre op a =>
      cases op with
      | deref => simp only [tyOf]; exact .unsup
      | _ =>
        simp only [eval]
        exact fun _ _ => .bind fun x => .liftE (preScalar_foOk _ x)
    | and a b | or a b =>
      simp only [tyOf, eval]
      exact .bind fun _ _ => .bind fun tb htb _ _ => .bind fun _ => .bind fun k => by
        cases k <;> first | exact .pure rfl | exact ih.e henv _ htb
    | bin op a b =>
      simp only [tyOf]
      refine .bind fun ta hta => .bind fun tb htb _ h => ?_
      rw [eval_bin_scalar f env op a b (by cases op <;> first | rfl | cases h)]
      exact (ih.e henv _ hta).bind2 fun x fx => (ih.e henv _ htb).bind2 fun y fy => .liftE (binScalar_foOk fx fy)
    | «at» a i =>
      simp only [tyOf, eval]
      exact .bind fun ta hta _ _ => (ih.e henv _ hta).bind2 fun x fx => .bind fun y => .liftE fun r => fo_atVal fx
    | tacc a n =>
      simp only [tyOf, eval]
      refine .bind fun ta hta _ _ => (ih.e henv _ hta).bind2 fun x fx => ?_
      split
      · split
        · rename_i hw
          exact .pure (foL_mem (by simpa only [fo] using fx) (List.mem_of_getElem? hw))
        · exact .throwS _
      · exact .throwS _
    | ifElse c t e =>
      simp only [tyOf]
      refine .bind fun _ _ => .ite .ill (.bind fun tt htt _ h => ?_)
      rw [eval_ifElse]
      refine .bind fun _ => .bind fun k => ?_
      cases k
      · cases e with
        | none => exact .pure rfl
        | some e => obtain ⟨te, hte, -⟩ := Res.bind_ok h; exact ih.e henv _ hte
      · exact ih.e henv _ htt
    | block body =>
      simp only [tyOf]
      rw [eval_block]
      exact .bind fun p hp _ _ => (ih.s henv.push _ hp).bind2 fun r hr => .pure hr.1
    | ifSet x ty e body els =>
      simp only [tyOf]
      refine .ite .unsup (.bind fun te hte => .bind fun tb htb _ h => ?_)
      rw [eval_ifSet]
      refine (ih.e henv _ hte).bind2 fun v fv => ?_
      split
      · exact ih.e (henv.bind x fv) _ htb
      · cases els with
        | none => exact .pure rfl
        | some el => obtain ⟨tl, htl, -⟩ := Res.bind_ok h; exact ih.e henv _ htl
    | arrayRepeat a n =>
      simp only [tyOf, eval]
      refine .bind fun tv htv _ _ => (ih.e henv _ htv).bind2 fun x fx => .bind fun y => ?_
      split
      · split
        · exact .throwS _
        · exact .pure (by simp only [fo]; exact foL_of_mem _ fun z hz => by rw [List.eq_of_mem_replicate hz]; exact fx)
      · exact .throwS _
    | slice a st en sp =>
      simp only [tyOf, eval]
      exact .bind fun ta hta _ _ => (ih.e henv _ hta).bind2 fun x fx => .bind fun _ => .bind fun _ => .bind fun _ =>
        .liftE fun r => fo_sliceVal fx
    | matchE e arms =>
      simp only [tyOf, eval]
      exact .bind fun te hte => .bind fun tys htys _ _ => (ih.e henv _ hte).bind2 fun v fv => ih.a henv fv _ htys
    | _ => unfold tyOf; exact .unsup
  l := by
    intro g env es henv
    cases es with
    | nil => rw [evalList_nil]; exact fun _ _ => .pure rfl
    | cons e es =>
      simp only [tyOfList]
      rw [evalList_cons]
      exact .bind fun t hte => .bind fun ts hts _ _ => (ih.e henv _ hte).bind2 fun v fv => (ih.l henv _ hts).bind2 fun vs fvs =>
        .pure (by simp only [foL, fv, fvs, Bool.and_self])
  v := by
    intro g env e henv
    rw [evalStmtValue_succ]
    exact ih.e henv
  st := by
    intro g env s henv
    cases hd : isDecl s with
    | false =>
      rw [tyOfStmt_notDecl g s hd, evalStmt_notDecl f env s hd]
      exact .bind fun t hte _ h => (ih.e henv _ hte).bind2 fun v fv => .pure ⟨fv, by cases h; exact henv⟩
    | true =>
      cases s with
      | set x e =>
        simp only [tyOfStmt]
        rw [evalStmt_set]
        exact .bind fun t hte _ h => (ih.v henv _ hte).bind2 fun v fv => .pure ⟨fv, by cases h; exact henv.insert x fv⟩
      | destruct _ _ | fndecl _ _ _ _ => simp only [tyOfStmt]; exact .unsup
      | _ => cases hd
  s := by
    intro g env body henv
    match body with
    | [] => simp only [tyOfSeq, evalSeq]; exact .ok (.pure ⟨rfl, henv⟩)
    | [s] => simp only [tyOfSeq]; rw [evalSeq_last]; exact ih.st henv
    | s :: s2 :: rest =>
      simp only [tyOfSeq]
      rw [evalSeq_cons]
      exact .bind fun p hp q h => (ih.st henv _ hp).bind2 fun r hr => ih.s hr.2 q h
  a := by
    intro g env v arms henv fv
    cases arms with
    | nil => simp only [evalArms]; exact fun _ _ => .throwS _
    | cons arm rest =>
      cases arm with
      | other body =>
        simp only [tyOfArms, evalArms]
        exact .bind fun tb htb _ _ => ih.e henv _ htb
      | ty x t body =>
        simp only [tyOfArms, evalArms]
        refine .ite .unsup (.bind fun tb htb => .bind fun ts hts _ _ => ?_)
        split
        · exact ih.e (henv.bind x fv) _ htb
        · exact ih.a henv fv _ hts
      | val cands body =>
        simp only [tyOfArms, evalArms]
        exact .bind fun _ _ => .bind fun tb htb => .bind fun ts hts _ _ => .bind fun hit =>
          match hit with | false => ih.a henv fv _ hts | true => ih.e henv _ htb

theorem fo_all : ∀ f : Nat, Fo f
  | 0 => by
    constructor <;> intros <;> intro _ _ <;> simp only [eval, evalList, evalStmtValue, evalStmt, evalSeq, evalArms] <;> exact .throwS _
  | f + 1 => fo_step (fo_all f)

/-- a good value without a closure in it is a `plain` one: `plain` is `CF.Good` less its constructor for functions -/
theorem plain_of_good_fo : ∀ {v : Val}, CF.Good v → fo v = true → plain v = true
  | _, .bool _, _ | _, .int _, _ | _, .float _, _ | _, .str _, _ | _, .unit, _ => by simp only [plain]
  | _, .arr t es wt hs hg, hf => by
    simp only [plain, Bool.and_eq_true, allTagSub_iff]
    exact ⟨⟨wt, hs⟩, plainL_of_mem es fun e he => plain_of_good_fo (hg e he) (foL_mem (by simpa only [fo] using hf) he)⟩
  | _, .tup es hg, hf => by
    simp only [plain]
    exact plainL_of_mem es fun e he => plain_of_good_fo (hg e he) (foL_mem (by simpa only [fo] using hf) he)
  | _, .fn .., hf => by simp only [fo] at hf; cases hf

/-- **type soundness, evaluator level, first-order fragment**: if the checker model assigns `T` to an expression in an
    environment whose variables hold first-order values of their static types, every value the reference evaluator
    produces for it (with any fuel, from any store) inhabits `T` - by contents - and is first-order -/
theorem eval_sound (f : Nat) (g : TEnv) (env : Env) (e : Expr) (T : Ty) (σ σ' : St) (v : Val)
    (henv : EnvOk env g) (ht : tyOf g e = .ok T) (hev : eval f env e σ = (.ok v, σ')) :
    hasTy v T = true ∧ sub v.asType T = true ∧ plain v = true :=
  have h := CF.outP_ok (C02.eval_outcome_fo f σ henv ht) hev
  ⟨h.2, h.1.1, plain_of_good_fo h.1.2 ((fo_all f).e (EnvRel.mono henv fun _ _ hv => plain_fo hv.2) T ht σ v σ' hev)⟩

/-- the same for whole programs (statement lists with `:=` declarations), from the empty environment -/
theorem program_sound (f : Nat) (prog : List Expr) (T : Ty) (σ σ' : St) (v : Val) (env' : Env)
    (ht : tyOfProgram prog = .ok T) (hev : evalSeq f [[]] prog σ = (.ok (v, env'), σ')) :
    hasTy v T = true := by
  have hF := tyOfProgram_le prog T ht
  have h := CF.program_outcome f prog T σ hF
  simp only [hev] at h
  exact CF.good_inv.hasTy_of_tag h.2 h.1

/-- non-vacuity: a program with a declaration, an index, a comparison and branches of different types is typed
    `int|string` by the model and evaluates (fuel 10) to a value -/
def sampleProg : List Expr :=
  [.set "x" (.array [.litInt 1, .litInt 2]),
   .ifElse (.bin .lt (.at (.var "x") (.litInt 0)) (.litInt 2)) (.block [.at (.var "x") (.litInt 1)]) (some (.block [.litStr "s"]))]

example : tyOfProgram sampleProg = .ok (.multi [.int, .str]) := by
  simp [tyOfProgram, sampleProg, tyOfSeq, tyOfStmt, tyOf, tyOfList, Res.bind, okW, binTy, TEnv.lookup, concatL, pairTy,
    accNum, concat, wf, wfL, membersOk, nodupL, memL, eqv, sub, anyMatch, matchesL]

end Ssl.C01
