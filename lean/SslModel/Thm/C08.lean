import SslModel.Gen.ScalarOps
import SslModel.Lemmas.Int64
/-!
# C08 — scalar operators are total and follow the documented arithmetic

Every theorem is stated over the operator descriptions `Ssl.Gen.*` that
`tools/translate.py` regenerates from `src/instruction/bin_op/**` and `prefix_op.rs` on
every run, for **all** `BitVec 64` operands.  `x.toInt` is the signed value, `Int.bmod _ 2^64`
the wrap into `[-2^63, 2^63)`.

Each proof has the same three steps: the equation of `IntOp.interp` for the operator's guard list
(`interp_unguarded`, `interp_guarded` and its two readings), the guard's meaning on `toInt`
(`holds_*`), the library's `toInt_*` lemma for the `BitVec` operation of the arm.
-/
namespace Ssl.C08
open Ssl BitVec

/-! ## + - * unary minus wrap modulo 2^64 -/

theorem add_wraps (a b : I64) : IsInt (Gen.add.interp a b) ((a.toInt + b.toInt).bmod M64) :=
  ⟨a + b, interp_unguarded _ rfl a b, BitVec.toInt_add a b⟩

theorem sub_wraps (a b : I64) : IsInt (Gen.subtract.interp a b) ((a.toInt - b.toInt).bmod M64) :=
  ⟨a - b, interp_unguarded _ rfl a b, BitVec.toInt_sub⟩

theorem mul_wraps (a b : I64) : IsInt (Gen.multiply.interp a b) ((a.toInt * b.toInt).bmod M64) :=
  ⟨a * b, interp_unguarded _ rfl a b, BitVec.toInt_mul a b⟩

theorem neg_wraps (a : I64) : (Gen.unary_minus.eval a).toInt = (- a.toInt).bmod M64 :=
  BitVec.toInt_neg

/-! ## an operator with one guard fails exactly when the guard holds -/

theorem errors_exact_div (a b : I64) (e : ExecErr) :
    Gen.divide.interp a b = .error e ↔ (b.toInt = 0 ∧ e = .ZeroDivision) :=
  interp_error_iff _ rfl (holds_rhsZero b) a e

theorem errors_exact_rem (a b : I64) (e : ExecErr) :
    Gen.modulo.interp a b = .error e ↔ (b.toInt = 0 ∧ e = .ZeroModulo) :=
  interp_error_iff _ rfl (holds_rhsZero b) a e

theorem errors_exact_pow (a b : I64) (e : ExecErr) :
    Gen.pow.interp a b = .error e ↔ (b.toInt < 0 ∧ e = .NegativeExponent) :=
  interp_error_iff _ rfl (holds_rhsNegative b) a e

theorem errors_exact_shl (a b : I64) (e : ExecErr) :
    Gen.lshift.interp a b = .error e ↔ ((b.toInt < 0 ∨ 63 < b.toInt) ∧ e = .OverflowShift) :=
  interp_error_iff _ rfl (holds_rhsOutside b) a e

theorem errors_exact_shr (a b : I64) (e : ExecErr) :
    Gen.rshift.interp a b = .error e ↔ ((b.toInt < 0 ∨ 63 < b.toInt) ∧ e = .OverflowShift) :=
  interp_error_iff _ rfl (holds_rhsOutside b) a e

theorem div_zero (a b : I64) (hb : b.toInt = 0) : Gen.divide.interp a b = .error .ZeroDivision :=
  (errors_exact_div a b _).mpr ⟨hb, rfl⟩

theorem rem_zero (a b : I64) (hb : b.toInt = 0) : Gen.modulo.interp a b = .error .ZeroModulo :=
  (errors_exact_rem a b _).mpr ⟨hb, rfl⟩

theorem pow_neg (a e : I64) (he : e.toInt < 0) :
    Gen.pow.interp a e = .error .NegativeExponent :=
  (errors_exact_pow a e _).mpr ⟨he, rfl⟩

theorem shl_err (a b : I64) (h : b.toInt < 0 ∨ 63 < b.toInt) :
    Gen.lshift.interp a b = .error .OverflowShift :=
  (errors_exact_shl a b _).mpr ⟨h, rfl⟩

theorem shr_err (a b : I64) (h : b.toInt < 0 ∨ 63 < b.toInt) :
    Gen.rshift.interp a b = .error .OverflowShift :=
  (errors_exact_shr a b _).mpr ⟨h, rfl⟩

/-- operators without guards never fail -/
theorem errors_exact_total :
    ∀ op ∈ [Gen.add, Gen.subtract, Gen.multiply, Gen.bitwise_and, Gen.bitwise_or, Gen.xor,
            Gen.greater, Gen.greater_equal, Gen.lower, Gen.lower_equal],
      ∀ a b, ∃ r, op.interp a b = .ok r := by
  intro op hop a b
  refine ⟨_, interp_unguarded op ?_ a b⟩
  revert op
  decide

/-! ## / truncates toward zero, `MIN / -1 = MIN` -/

theorem div_trunc (a b : I64) (hb : b.toInt ≠ 0) (h : a ≠ BitVec.intMin 64 ∨ b ≠ -1) :
    IsInt (Gen.divide.interp a b) (a.toInt.tdiv b.toInt) :=
  ⟨a.sdiv b, interp_of_not_guard _ rfl (holds_rhsZero b) hb a, BitVec.toInt_sdiv_of_ne_or_ne a b h⟩

theorem div_min_neg1 :
    Gen.divide.interp (BitVec.intMin 64) (-1) = .ok (.int (BitVec.intMin 64)) := by
  rfl

/-! ## % takes the sign of the dividend, `MIN % -1 = 0` -/

theorem rem_sign (a b : I64) (hb : b.toInt ≠ 0) :
    IsInt (Gen.modulo.interp a b) (a.toInt.tmod b.toInt) :=
  ⟨a.srem b, interp_of_not_guard _ rfl (holds_rhsZero b) hb a, BitVec.toInt_srem a b⟩

theorem rem_min_neg1 : Gen.modulo.interp (BitVec.intMin 64) (-1) = .ok (.int 0) := by
  rfl

/-! ## `**` is exponentiation modulo 2^64 for every non-negative exponent -/

theorem pow_correct (a e : I64) (he : 0 ≤ e.toInt) :
    IsInt (Gen.pow.interp a e) ((a.toInt ^ e.toInt.toNat).bmod M64) :=
  ⟨a ^ e.toNat,
    (interp_of_not_guard _ rfl (holds_rhsNegative e) (by omega) a).trans
      (congrArg (fun x => Except.ok (Scalar.int x)) (powSqMulU64Val_eq a e)),
    by rw [toInt_pow, toNat_toInt_of_nonneg e he]⟩

/-! ## shifts accept exactly 0..=63; `>>` is arithmetic -/

theorem shl_ok (a b : I64) (h0 : 0 ≤ b.toInt) (h1 : b.toInt ≤ 63) :
    IsInt (Gen.lshift.interp a b) ((a.toInt * 2 ^ b.toInt.toNat).bmod M64) := by
  refine ⟨a <<< b.toNat, interp_of_not_guard _ rfl (holds_rhsOutside b) (by omega) a, ?_⟩
  rw [BitVec.toInt_shiftLeft, Nat.shiftLeft_eq, toNat_toInt_of_nonneg b h0,
    BitVec.toInt_eq_toNat_bmod a, Int.bmod_mul_bmod]
  simp

theorem shr_ok (a b : I64) (h0 : 0 ≤ b.toInt) (h1 : b.toInt ≤ 63) :
    IsInt (Gen.rshift.interp a b) (a.toInt / 2 ^ b.toInt.toNat) := by
  refine ⟨a.sshiftRight b.toNat, interp_of_not_guard _ rfl (holds_rhsOutside b) (by omega) a, ?_⟩
  rw [BitVec.toInt_sshiftRight, Int.shiftRight_eq_div_pow, toNat_toInt_of_nonneg b h0]
  simp

/-! ## & | ^ ! are bitwise -/

theorem and_bitwise (a b : I64) :
    ∃ r, Gen.bitwise_and.interp a b = .ok (.int r) ∧ ∀ i, r.getLsbD i = (a.getLsbD i && b.getLsbD i) :=
  ⟨a &&& b, interp_unguarded _ rfl a b, fun _ => BitVec.getLsbD_and⟩

theorem or_bitwise (a b : I64) :
    ∃ r, Gen.bitwise_or.interp a b = .ok (.int r) ∧ ∀ i, r.getLsbD i = (a.getLsbD i || b.getLsbD i) :=
  ⟨a ||| b, interp_unguarded _ rfl a b, fun _ => BitVec.getLsbD_or⟩

theorem xor_bitwise (a b : I64) :
    ∃ r, Gen.xor.interp a b = .ok (.int r) ∧ ∀ i, r.getLsbD i = (a.getLsbD i ^^ b.getLsbD i) :=
  ⟨a ^^^ b, interp_unguarded _ rfl a b, fun _ => BitVec.getLsbD_xor⟩

theorem not_bitwise (a : I64) (i : Nat) (hi : i < 64) :
    (Gen.not.eval a).getLsbD i = !a.getLsbD i := by
  simp [Gen.not, UnExpr.eval, hi]

/-! ## comparisons of ints are signed -/

theorem lt_signed (a b : I64) : IsBool (Gen.lower.interp a b) (decide (a.toInt < b.toInt)) :=
  (interp_unguarded _ rfl a b).trans (by rw [← BitVec.slt_eq_decide]; rfl)

theorem le_signed (a b : I64) : IsBool (Gen.lower_equal.interp a b) (decide (a.toInt ≤ b.toInt)) :=
  (interp_unguarded _ rfl a b).trans (by rw [← BitVec.sle_eq_decide]; rfl)

theorem gt_signed (a b : I64) : IsBool (Gen.greater.interp a b) (decide (a.toInt > b.toInt)) :=
  (interp_unguarded _ rfl a b).trans (by rw [← BitVec.slt_eq_decide]; rfl)

theorem ge_signed (a b : I64) : IsBool (Gen.greater_equal.interp a b) (decide (a.toInt ≥ b.toInt)) :=
  (interp_unguarded _ rfl a b).trans (by rw [← BitVec.sle_eq_decide]; rfl)

/-! ## bool operators are the logical operations -/

theorem bool_tables : ∀ a b : Bool,
    BoolExpr.band.eval a b = (a && b) ∧ BoolExpr.bor.eval a b = (a || b) ∧
    BoolExpr.bxor.eval a b = (a != b) := by decide

/-- the bool arms of `& | ^` in the source are the ones modelled -/
theorem bool_arms_as_modelled :
    (List.lookup "bitwise_and" Gen.floatArms).map (·.2) = some (some "band") ∧
    (List.lookup "bitwise_or" Gen.floatArms).map (·.2) = some (some "bor") ∧
    (List.lookup "xor" Gen.floatArms).map (·.2) = some (some "bxor") ∧
    Gen.unaryOther.contains ("not", "bool", "bnot") = true := by
  -- lookups in string-keyed tables: plain `decide` would evaluate them in the elaborator first and the kernel then
  -- again, `+kernel` leaves it to the kernel alone (so for the three decisions below)
  decide +kernel

/-! ## one semantics on all three paths (run time, folding, compound assignment) -/

def assignBase : List (String × String) :=
  [("AssignAdd", "Add"), ("AssignSubtract", "Subtract"), ("AssignMultiply", "Multiply"),
   ("AssignDivide", "Divide"), ("AssignModulo", "Modulo"), ("AssignPow", "Pow"),
   ("AssignLShift", "LShift"), ("AssignRShift", "RShift"), ("AssignBitwiseAnd", "BitwiseAnd"),
   ("AssignBitwiseOr", "BitwiseOr"), ("AssignXor", "Xor")]

/-- every compound assignment applies the `exec` of the module that runs its base operator -/
theorem three_paths_assign :
    ∀ p ∈ assignBase, List.lookup p.1 Gen.assignTable = List.lookup p.2 Gen.execTable ∧
      (List.lookup p.2 Gen.execTable).isSome = true := by decide +kernel

def scalarOps : List String :=
  ["Add", "Subtract", "Multiply", "Divide", "Modulo", "Greater", "GreaterOrEqual", "Lower",
   "LowerOrEqual", "BitwiseAnd", "BitwiseOr", "Xor", "LShift", "RShift"]

/-- every scalar operator that is folded at all is folded by the module that executes it, and
    that module folds two constants by calling its own `exec` -/
theorem three_paths_fold :
    ∀ op ∈ scalarOps, List.lookup op Gen.foldTable = List.lookup op Gen.execTable ∧
      ((List.lookup op Gen.execTable).bind (fun m => List.lookup m Gen.foldsThroughOwnExec)) = some true := by decide +kernel

/-- `**` is the one scalar operator that is never folded (so there is nothing to disagree) -/
theorem pow_not_folded : List.lookup "Pow" Gen.foldTable = none := by decide +kernel

/-! ## non-vacuity: the hypotheses are met by boundary operands -/
example : (BitVec.intMin 64 : I64).toInt ≠ 0 ∧ ((5 : I64) ≠ BitVec.intMin 64 ∨ (-1 : I64) ≠ -1) := by decide
example : (0 : Int) ≤ (63 : I64).toInt ∧ (63 : I64).toInt ≤ 63 := by decide
example : (0 : Int) ≤ (BitVec.ofNat 64 (2 ^ 32) : I64).toInt := by decide

end Ssl.C08
