import SslModel.Thm.C12
/-!
# C12 — loops and `match`, for any number of iterations, arms and candidates

`Thm/C12.lean` has the one-iteration and one-arm facts.  Here runs of ANY length are described by inductive run
relations, and a run is proved to give the evaluator's result (run ⇒ result; the converse is not proved).  Loops: the
condition (for `while x: T = e` the type test, the body running with `x` bound in a frame of its own) is evaluated before
every iteration, in the store the previous one left; the body runs exactly while it holds; the loop ends at the first
`false` condition or the first `break` (`loop body`: only by `break`) and its value is `()`; a `return` / error raised in
an iteration leaves the loop with that signal, after exactly the iterations before it.  In `WhileRun`, `WhileSetRun`,
`LoopRun` the index `n` counts the body runs, the one ended by `break` included; in `WhileEscapes` the complete
iterations before the escaping one; so "the body ran exactly n times" is part of the statement.  `match`: the arms
before the first covering one are skipped top to bottom - a type arm without evaluating its body, a value arm after all
its candidates were evaluated left to right and differ (`ArmsSkipped`, `CandMiss`) - then the first covering arm runs
(`match_first_*`; a value arm stops at its first equal candidate, `CandHit`) and the arms after it are never looked at.
-/
namespace Ssl.C12
open Ssl Ssl.Spec

/-- the run of `while c body`: `n` is the number of times the body ran (a run ended by `break` counts) -/
inductive WhileRun (env : Env) (c body : Expr) : Nat → St → Nat → St → Prop where
  | exit {f : Nat} {σ σ' : St} : eval f env c σ = (.ok (.bool false), σ') → WhileRun env c body (f + 1) σ 0 σ'
  | step {f n : Nat} {σ σ1 σ2 σ' : St} :
      eval f env c σ = (.ok (.bool true), σ1) → bodyOnce f env body σ1 = (.ok true, σ2) →
      WhileRun env c body f σ2 n σ' → WhileRun env c body (f + 1) σ (n + 1) σ'
  | brk {f : Nat} {σ σ1 σ2 : St} :
      eval f env c σ = (.ok (.bool true), σ1) → bodyOnce f env body σ1 = (.ok false, σ2) →
      WhileRun env c body (f + 1) σ 1 σ2

theorem while_run (env : Env) (c body : Expr) (F : Nat) (σ σ' : St) (n : Nat)
    (h : WhileRun env c body F σ n σ') : whileGo F env c body σ = (.ok .unit, σ') := by
  induction h with
  | exit hc => rw [whileGo_succ, bind_ok hc]; rfl
  | step hc hb _ ih => rw [whileGo_succ, bind_ok hc, asBool_bool, liftE_ok_bind]; exact (bind_ok hb).trans ih
  | brk hc hb => rw [whileGo_succ, bind_ok hc, asBool_bool, liftE_ok_bind]; exact bind_ok hb

theorem while_expr_run (env : Env) (c body : Expr) (F : Nat) (σ σ' : St) (n : Nat)
    (h : WhileRun env c body F σ n σ') : eval (F + 1) env (.while c body) σ = (.ok .unit, σ') := by
  simp only [eval]; exact while_run env c body F σ σ' n h

/-- a signal (`return`, an error) that the body of iteration `n + 1` lets through leaves the loop with it, after `n`
    complete iterations -/
inductive WhileEscapes (env : Env) (c body : Expr) (s : Sig) : Nat → St → Nat → St → Prop where
  | here {f : Nat} {σ σ1 σ2 : St} :
      eval f env c σ = (.ok (.bool true), σ1) → bodyOnce f env body σ1 = (.error s, σ2) →
      WhileEscapes env c body s (f + 1) σ 0 σ2
  | cond {f : Nat} {σ σ1 : St} :
      eval f env c σ = (.error s, σ1) → WhileEscapes env c body s (f + 1) σ 0 σ1
  | later {f n : Nat} {σ σ1 σ2 σ' : St} :
      eval f env c σ = (.ok (.bool true), σ1) → bodyOnce f env body σ1 = (.ok true, σ2) →
      WhileEscapes env c body s f σ2 n σ' → WhileEscapes env c body s (f + 1) σ (n + 1) σ'

theorem while_escapes (env : Env) (c body : Expr) (s : Sig) (F : Nat) (σ σ' : St) (n : Nat)
    (h : WhileEscapes env c body s F σ n σ') : whileGo F env c body σ = (.error s, σ') := by
  induction h with
  | here hc hb => rw [whileGo_succ, bind_ok hc, asBool_bool, liftE_ok_bind]; exact bind_error hb
  | cond hc => rw [whileGo_succ, bind_error hc]
  | later hc hb _ ih => rw [whileGo_succ, bind_ok hc, asBool_bool, liftE_ok_bind]; exact (bind_ok hb).trans ih

inductive WhileSetRun (env : Env) (x : String) (ty : Ty) (e body : Expr) : Nat → St → Nat → St → Prop where
  | exit {f : Nat} {σ σ' : St} {v : Val} :
      eval f env e σ = (.ok v, σ') → Ty.sub v.asType ty = false → WhileSetRun env x ty e body (f + 1) σ 0 σ'
  | step {f n : Nat} {σ σ1 σ2 σ' : St} {v : Val} :
      eval f env e σ = (.ok v, σ1) → Ty.sub v.asType ty = true →
      bodyOnce f ([(x, v)] :: env) body σ1 = (.ok true, σ2) →
      WhileSetRun env x ty e body f σ2 n σ' → WhileSetRun env x ty e body (f + 1) σ (n + 1) σ'
  | brk {f : Nat} {σ σ1 σ2 : St} {v : Val} :
      eval f env e σ = (.ok v, σ1) → Ty.sub v.asType ty = true →
      bodyOnce f ([(x, v)] :: env) body σ1 = (.ok false, σ2) → WhileSetRun env x ty e body (f + 1) σ 1 σ2

theorem whileSet_run (env : Env) (x : String) (ty : Ty) (e body : Expr) (F : Nat) (σ σ' : St) (n : Nat)
    (h : WhileSetRun env x ty e body F σ n σ') : whileSetGo F env x ty e body σ = (.ok .unit, σ') := by
  induction h with
  | exit he ht => rw [whileSetGo_succ, bind_ok he]; simp only [ht]; rfl
  | step he ht hb _ ih => rw [whileSetGo_succ, bind_ok he]; simp only [ht, if_true]; exact (bind_ok hb).trans ih
  | brk he ht hb => rw [whileSetGo_succ, bind_ok he]; simp only [ht, if_true]; exact bind_ok hb

/-- the run of `loop body`: it ends only by `break` -/
inductive LoopRun (env : Env) (body : Expr) : Nat → St → Nat → St → Prop where
  | brk {f : Nat} {σ σ' : St} : bodyOnce f env body σ = (.ok false, σ') → LoopRun env body (f + 1) σ 1 σ'
  | step {f n : Nat} {σ σ1 σ' : St} :
      bodyOnce f env body σ = (.ok true, σ1) → LoopRun env body f σ1 n σ' → LoopRun env body (f + 1) σ (n + 1) σ'

theorem loop_run (env : Env) (body : Expr) (F : Nat) (σ σ' : St) (n : Nat)
    (h : LoopRun env body F σ n σ') : loopGo F env body σ = (.ok .unit, σ') := by
  induction h with
  | brk hb => rw [loopGo_succ, bind_ok hb]; rfl
  | step hb _ ih => exact (loopGo_again _ _ hb).trans ih

/-- a loop that ended ran its body at least once -/
theorem LoopRun.pos {env : Env} {body : Expr} {F : Nat} {σ σ' : St} {n : Nat} (h : LoopRun env body F σ n σ') : 0 < n := by
  cases h <;> omega

/-! ## `match`: the FIRST covering arm, for any number of arms and candidates -/

/-- the candidates of a value arm tried left to right: `CandMiss` - all of them evaluated, none equal;
    `CandHit` - evaluated up to and including the first equal one, the rest (`post`) not at all -/
inductive CandMiss (env : Env) (v : Val) : Nat → List Expr → St → St → Prop where
  | nil {f : Nat} {σ : St} : CandMiss env v (f + 1) [] σ σ
  | cons {f : Nat} {c : Expr} {cs : List Expr} {σ σ1 σ' : St} {w : Val} :
      eval f env c σ = (.ok w, σ1) → veq w v = false → CandMiss env v f cs σ1 σ' → CandMiss env v (f + 1) (c :: cs) σ σ'

inductive CandHit (env : Env) (v : Val) : Nat → List Expr → St → St → Prop where
  | here {f : Nat} {c : Expr} {post : List Expr} {σ σ' : St} {w : Val} :
      eval f env c σ = (.ok w, σ') → veq w v = true → CandHit env v (f + 1) (c :: post) σ σ'
  | later {f : Nat} {c : Expr} {cs : List Expr} {σ σ1 σ' : St} {w : Val} :
      eval f env c σ = (.ok w, σ1) → veq w v = false → CandHit env v f cs σ1 σ' → CandHit env v (f + 1) (c :: cs) σ σ'

theorem cand_miss (env : Env) (v : Val) (F : Nat) (cs : List Expr) (σ σ' : St) (h : CandMiss env v F cs σ σ') :
    candGo F env v cs σ = (.ok false, σ') := by
  induction h with
  | nil => simp only [candGo]; rfl
  | cons hc hv _ ih => simp only [candGo, bind_def, hc, hv]; exact ih

theorem cand_hit (env : Env) (v : Val) (F : Nat) (cs : List Expr) (σ σ' : St) (h : CandHit env v F cs σ σ') :
    candGo F env v cs σ = (.ok true, σ') := by
  induction h with
  | here hc hv => simp only [candGo, bind_def, hc, hv]; rfl
  | later hc hv _ ih => simp only [candGo, bind_def, hc, hv]; exact ih

/-- arms that do NOT cover the value, tried top to bottom: a type arm whose type the value's run-time type does not
    match (its body is not evaluated), a value arm all of whose candidates were evaluated and differ -/
inductive ArmsSkipped (env : Env) (v : Val) : Nat → List Arm → St → St → Nat → Prop where
  | nil {f : Nat} {σ : St} : ArmsSkipped env v f [] σ σ f
  | ty {f f' : Nat} {x : String} {t : Ty} {body : Expr} {rest : List Arm} {σ σ' : St} :
      Ty.sub v.asType t = false → ArmsSkipped env v f rest σ σ' f' →
      ArmsSkipped env v (f + 1) (.ty x t body :: rest) σ σ' f'
  | val {f f' : Nat} {cands : List Expr} {body : Expr} {rest : List Arm} {σ σ1 σ' : St} :
      CandMiss env v f cands σ σ1 → ArmsSkipped env v f rest σ1 σ' f' →
      ArmsSkipped env v (f + 1) (.val cands body :: rest) σ σ' f'

/-- the arms after the skipped ones are what `match` goes on with; in particular the arms after the first covering
    one (`post` below) are never looked at -/
theorem arms_skipped (env : Env) (v : Val) (F f' : Nat) (pre rest : List Arm) (σ σ1 : St)
    (h : ArmsSkipped env v F pre σ σ1 f') :
    evalArms F env v (pre ++ rest) σ = evalArms f' env v rest σ1 := by
  induction h with
  | nil => rfl
  | ty ht _ ih => simp only [List.cons_append, evalArms, ht]; exact ih
  | val hc _ ih => simp only [List.cons_append, evalArms, bind_def, cand_miss env v _ _ _ _ hc]; exact ih

/-- first covering arm is a type arm: its body runs with the name bound to the scrutinee, in a frame of its own -/
theorem match_first_type_arm (env : Env) (v : Val) (F f' : Nat) (pre post : List Arm) (x : String) (t : Ty) (body : Expr)
    (σ σ1 : St) (h : ArmsSkipped env v F pre σ σ1 (f' + 1)) (ht : Ty.sub v.asType t = true) :
    evalArms F env v (pre ++ .ty x t body :: post) σ = eval f' ([(x, v)] :: env) body σ1 := by
  rw [arms_skipped env v F (f' + 1) pre _ σ σ1 h]; simp only [evalArms, ht]; rfl

/-- first covering arm is a value arm -/
theorem match_first_value_arm (env : Env) (v : Val) (F f' : Nat) (pre post : List Arm) (cands : List Expr) (body : Expr)
    (σ σ1 σ2 : St) (h : ArmsSkipped env v F pre σ σ1 (f' + 1)) (hc : CandHit env v f' cands σ1 σ2) :
    evalArms F env v (pre ++ .val cands body :: post) σ = eval f' env body σ2 := by
  rw [arms_skipped env v F (f' + 1) pre _ σ σ1 h]; simp only [evalArms, bind_def, cand_hit env v _ _ _ _ hc]; rfl

/-- first covering arm is the catch-all -/
theorem match_first_other_arm (env : Env) (v : Val) (F f' : Nat) (pre post : List Arm) (body : Expr)
    (σ σ1 : St) (h : ArmsSkipped env v F pre σ σ1 (f' + 1)) :
    evalArms F env v (pre ++ .other body :: post) σ = eval f' env body σ1 := by
  rw [arms_skipped env v F (f' + 1) pre _ σ σ1 h]; simp only [evalArms]

end Ssl.C12
