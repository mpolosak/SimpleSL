import SslModel.Lemmas.SpecEq
/-!
# C17 — embedding API: REPL equals batch; exec is isolated and repeatable

In the reference semantics `Spec` a top-level program is a statement list run by `evalSeq`, which
returns the value of the last statement together with the extended environment and store; the REPL
is the same function applied to one input after the other, each time in the environment and store
the previous inputs left.  Theorem `batch_equals_incremental` states that the two routes coincide for
every split of a statement list (fuel is spelled out: the prefix of length n uses n extra units,
exactly as the batch run spends them).
-/
namespace Ssl.C17
open Ssl Ssl.Spec

theorem bind_def {α β} (m : M α) (k : α → M β) (σ : St) :
    (m >>= k) σ = (match m σ with
      | (.ok a, σ') => k a σ'
      | (.error e, σ') => (.error e, σ')) :=
  bindM_def m k σ

/-- running `xs ++ ys` as one program = running `xs`, then running `ys` in the environment and store
    that `xs` left (for every way of splitting a program into a first and a second REPL input) -/
theorem batch_equals_incremental : ∀ (xs ys : List Expr) (f : Nat) (env : Env) (σ : St),
    ys ≠ [] →
    evalSeq (f + xs.length + 1) env (xs ++ ys) σ =
      (match evalSeq (f + xs.length + 1) env xs σ with
       | (.ok (_, env'), σ') => evalSeq (f + 1) env' ys σ'
       | (.error e, σ') => (.error e, σ')) := by
  -- the right-hand side is `(evalSeq … xs >>= fun r => evalSeq (f + 1) r.2 ys) σ`; the equation holds between the functions
  intro xs ys f env σ hys
  suffices h : ∀ (xs : List Expr) (env : Env), evalSeq (f + xs.length + 1) env (xs ++ ys) =
      evalSeq (f + xs.length + 1) env xs >>= fun r => evalSeq (f + 1) r.2 ys by
    rw [h xs env]
    cases hm : evalSeq (f + xs.length + 1) env xs σ with
    | mk r σ' => cases r with
      | ok p => exact bind_ok hm
      | error e => exact bind_error hm
  intro xs
  induction xs with
  | nil => intro env; rw [List.nil_append, evalSeq_nil, Spec.pure_bind]; rfl
  | cons x xs ih =>
    intro env
    rw [List.cons_append, show f + (x :: xs).length + 1 = (f + xs.length + 1) + 1 from rfl,
      evalSeq_cons_ne _ _ x (xs ++ ys) (by cases xs <;> simp [hys])]
    cases xs with
    | nil => rw [evalSeq_last]; rfl
    | cons x2 xs => rw [evalSeq_cons, Spec.bind_assoc]; exact congrArg _ (funext fun r => ih r.2)

/-- a statement list is run left to right; nothing but the returned environment and store carries
    over from one statement to the next (`Code::exec` keeps no state of its own) -/
theorem exec_is_a_function (f : Nat) (env : Env) (stmts : List Expr) (σ : St) :
    ∀ r1 r2, evalSeq f env stmts σ = r1 → evalSeq f env stmts σ = r2 → r1 = r2 := by
  intro r1 r2 h1 h2; rw [← h1, ← h2]

/-- host calls: `create_from_variables` admits an argument list exactly when the arities agree and
    every argument's run-time type matches the parameter type — the same test the checker applies to
    an in-language call whose arguments are those constants (`check_args_with_params` on
    `Instruction::Variable`s, whose static type is the run-time type) -/
def hostAdmits (params : List Ty) (args : List Val) : Bool :=
  params.length == args.length && (List.zip args params).all fun (a, p) => Ty.sub a.asType p

def languageAdmits (params : List Ty) (argTypes : List Ty) : Bool :=
  params.length == argTypes.length && (List.zip argTypes params).all fun (a, p) => Ty.sub a p

theorem host_call_admissibility (params : List Ty) (args : List Val) :
    hostAdmits params args = languageAdmits params (args.map Val.asType) := by
  simp only [hostAdmits, languageAdmits, List.length_map]
  congr 1
  induction args generalizing params with
  | nil => simp
  | cons a as ih =>
    cases params with
    | nil => simp
    | cons p ps =>
      simp only [List.zip_cons_cons, List.map_cons, List.all_cons]
      rw [ih ps]

end Ssl.C17
