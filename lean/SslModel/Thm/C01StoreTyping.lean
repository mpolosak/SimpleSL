import SslModel.Model.CheckS
import SslModel.Thm.C01Invariants
/-!
# C01 / C02 / C13 — the invariant over a store typing

With cells the invariant on values speaks of a STORE TYPING `S`, the declared content type of every allocated cell: a cell
value is good when `S` knows its location at its type.  The store respects the typing, the typing only ever grows (`Ext`,
under which everything here is monotone), and an outcome speaks of an extension of it, now with `break` / `continue`
inside a loop body.  A good value with functions (`CF.Good`) is a good value over any store typing, so what `Good` gives
about tags and contents is proved once, here.  (Definitions with like-shaped `match`es share auxiliaries within a module;
those of `CF`, in Thm/C01Invariants, and these are kept apart so that each elaborates on its own.)
-/

namespace Ssl.CS
open Ssl Ssl.Ty Ssl.Val Ssl.Spec Ssl.Check Ssl.CheckF Ssl.CheckS Ssl.C01

/-- store typing: the declared content type of every allocated cell, by location -/
abbrev STy := List Ty

/-- `S'` extends `S`: the cells `S` knows keep their types -/
def Ext (S S' : STy) : Prop := ∃ ext, S' = S ++ ext

theorem ext_refl (S : STy) : Ext S S := ⟨[], by simp⟩
theorem ext_trans {A B C : STy} (h1 : Ext A B) (h2 : Ext B C) : Ext A C := by
  obtain ⟨e1, rfl⟩ := h1
  obtain ⟨e2, rfl⟩ := h2
  exact ⟨e1 ++ e2, by simp⟩
theorem ext_get {S S' : STy} (h : Ext S S') {loc : Nat} {t : Ty} (hl : S[loc]? = some t) : S'[loc]? = some t := by
  obtain ⟨e, rfl⟩ := h
  rw [List.getElem?_append_left]
  · exact hl
  · have := List.getElem?_eq_some_iff.mp hl; exact this.1

def bodyEnv (self : Option String) (ps : List (String × Ty)) (rt : Ty) (Γ : TEnv) : TEnv :=
  bindParams ps (match self with
    | some x => (x, .fn (ps.map (·.2)) rt) :: Γ
    | none => Γ)

def BodyOk (self : Option String) (ps : List (String × Ty)) (rt : Ty) (body : List Expr) (Γ : TEnv) : Prop :=
  ∃ ts g', tySSeq false (some rt) (bodyEnv self ps rt Γ) body = .ok (ts, g') ∧
    (sub .void rt = true ∨ ts.any (fun t => eqv t .never) = true)

inductive Good (S : STy) : Val → Prop
  | bool (b : Bool) : Good S (.bool b)
  | int (i : I64) : Good S (.int i)
  | float (x : F64) : Good S (.float x)
  | str (s : String) : Good S (.str s)
  | unit : Good S .unit
  | arr (t : Ty) (es : List Val) : wf t = true → (∀ e ∈ es, sub e.asType t = true) → (∀ e ∈ es, Good S e) → Good S (.arr t es)
  | tup (es : List Val) : (∀ e ∈ es, Good S e) → Good S (.tup es)
  | cell (loc : Nat) (ty : Ty) : S[loc]? = some ty → wf ty = true → Good S (.cell loc ty)
  | struct (fs : List (String × Val)) : nodupKeys (asTypeF fs) = true → (∀ p ∈ fs, Good S p.2) → Good S (.struct fs)
  | fn (id : Nat) (ps : List (String × Ty)) (rt : Ty) (body : List Expr) (cap : List (String × Val)) (self : Option String)
      (Γ : TEnv) : wfParams ps = true → wf rt = true → (∀ x t, Γ.lookup x = some t → wf t = true) →
      (∀ x t, Γ.lookup x = some t → ∃ v, frameLookup x cap = some v ∧ sub v.asType t = true) →
      (∀ x t v, Γ.lookup x = some t → frameLookup x cap = some v → Good S v) →
      BodyOk self ps rt body Γ → Good S (.fn id ps rt body cap self)

theorem good_mono {S S' : STy} (h : Ext S S') : ∀ {v : Val}, Good S v → Good S' v
  | _, .bool b => .bool b
  | _, .int i => .int i
  | _, .float x => .float x
  | _, .str s => .str s
  | _, .unit => .unit
  | _, .arr t es w hs hg => .arr t es w hs (fun e he => good_mono h (hg e he))
  | _, .tup es hg => .tup es (fun e he => good_mono h (hg e he))
  | _, .cell loc ty hl w => .cell loc ty (ext_get h hl) w
  | _, .struct fs hn hg => .struct fs hn (fun p hp => good_mono h (hg p hp))
  | _, .fn id ps rt body cap self Γ a b c d e f => .fn id ps rt body cap self Γ a b c d (fun x t v hx hv => good_mono h (e x t v hx hv)) f


variable {S : STy}

theorem asTypeF_eq_map : ∀ fs : List (String × Val), asTypeF fs = fs.map fun p => (p.1, p.2.asType)
  | [] => by rw [asTypeF, List.map_nil]
  | (k, v) :: fs => by rw [asTypeF, asTypeF_eq_map fs, List.map_cons]

/-- a struct value with distinct field names whose fields inhabit their tags has every field its own tag demands: the
    field the tag names is the field the lookup finds -/
theorem hasFields_self (fs : List (String × Val)) (hn : nodupKeys (asTypeF fs) = true)
    (hall : ∀ p ∈ fs, hasTy p.2 p.2.asType = true) : hasFields fs (asTypeF fs) = true := by
  rw [hasFields_iff]
  intro p hp
  rw [asTypeF_eq_map] at hp hn
  obtain ⟨⟨k, v⟩, hkv, rfl⟩ := List.mem_map.mp hp
  have hnd : (fs.map (·.1)).Nodup := by
    have := keys_nodup hn
    rwa [List.map_map] at this
  have hl : frameLookup k fs = some v :=
    lookup_of_mem (look := frameLookup k) (fun k' x fs => by rw [frameLookup, BEq.comm]) hnd hkv
  exact (field_test_iff (g := fun fs => Val.hasField fs k v.asType) (test := fun x => hasTy x v.asType) (look := frameLookup k)
    (by rw [Val.hasField]) (fun k' x fs => by rw [Val.hasField]) rfl (fun k' x fs => by rw [frameLookup, BEq.comm]) fs).mpr
    ⟨v, hl, hall _ hkv⟩

theorem facts_list : ∀ (vs : List Val), (∀ x ∈ vs, wf x.asType = true ∧ hasTy x x.asType = true) →
    wfL (asTypeL vs) = true ∧ hasTyL vs (asTypeL vs) = true
  | [], _ => by simp [asTypeL, wfL, hasTyL]
  | v :: vs, h => by
    obtain ⟨h2, h3⟩ := facts_list vs (fun x hx => h x (by simp [hx]))
    obtain ⟨a2, a3⟩ := h v (by simp)
    simp [asTypeL, wfL, hasTyL, h2, h3, a2, a3]

theorem facts_fields : ∀ (fs : List (String × Val)), (∀ p ∈ fs, wf p.2.asType = true) → wfF (asTypeF fs) = true
  | [], _ => by simp [asTypeF, wfF]
  | (k, v) :: fs, h => by
    simp [asTypeF, wfF, facts_fields fs (fun x hx => h x (by simp [hx])), h (k, v) (by simp)]

theorem good_facts : ∀ {v : Val}, Good S v → wf v.asType = true ∧ hasTy v v.asType = true
  | _, .bool b => by simp [asType, wf, hasTy]
  | _, .int i => by simp [asType, wf, hasTy]
  | _, .float x => by simp [asType, wf, hasTy]
  | _, .str s => by simp [asType, wf, hasTy]
  | _, .unit => by simp [asType, wf, hasTy]
  | _, .arr t es wt hsub hgood => by
    refine ⟨by simpa only [asType, wf] using wt, ?_⟩
    rw [asType, hasTy_arr, allHasTy_iff]
    intro x hx
    exact hasTy_of_sub x x.asType t (hsub x hx) (good_facts (hgood x hx)).2
  | _, .tup es hgood => by
    obtain ⟨h2, h3⟩ := facts_list es (fun x hx => good_facts (hgood x hx))
    exact ⟨by simp only [asType, wf]; exact h2, by rw [asType, hasTy_tup]; exact h3⟩
  | _, .cell loc ty hl w => by
    refine ⟨by simpa only [asType, wf] using w, ?_⟩
    simp only [asType, hasTy]
    exact eqv_refl ty w
  | _, .struct fs hn hgood => by
    have hall := fun p hp => good_facts (hgood p hp)
    refine ⟨by simp only [asType, wf, Bool.and_eq_true]; exact ⟨facts_fields fs fun p hp => (hall p hp).1, hn⟩, ?_⟩
    rw [asType, hasTy_struct]
    exact hasFields_self fs hn fun p hp => (hall p hp).2
  | _, .fn id ps rt body cap self Γ wp wr _ _ _ _ => by
    have wft : wf (Val.fn id ps rt body cap self).asType = true := by
      simp only [asType, wf, Bool.and_eq_true]
      exact ⟨wfL_of_wfParams ps wp, wr⟩
    refine ⟨wft, ?_⟩
    have hsr := sub_refl _ wft
    simp only [asType] at hsr ⊢
    rw [hasTy]
    simpa [asType] using hsr

theorem hasTy_of_tagG {v : Val} {T : Ty} (gv : Good S v) (h : sub v.asType T = true) : hasTy v T = true :=
  hasTy_of_sub v v.asType T h (good_facts gv).2

theorem good_inv : Val.Inv (Good S) where
  bool := .bool
  int := .int
  float := .float
  str := .str
  unit := .unit
  wf_tag h := (good_facts h).1
  hasTy_of_tag := hasTy_of_tagG
  arr := ⟨fun h => by cases h with | arr _ _ a b c => exact ⟨a, b, c⟩, fun h => .arr _ _ h.1 h.2.1 h.2.2⟩
  tup := ⟨fun h => by cases h with | tup _ a => exact a, fun h => .tup _ h⟩

def scalarV : Val → Bool
  | .bool _ | .int _ | .float _ | .str _ | .unit => true
  | _ => false

theorem good_of_scalarish {v : Val} (h : plain v = true) (hs : scalarV v = true) : Good S v := by
  cases v <;> simp [scalarV] at hs <;> constructor

def VT (S : STy) (T : Ty) (v : Val) : Prop := sub v.asType T = true ∧ Good S v

theorem tagArr_sub (t e : Ty) (h : sub (Ty.arr t) (Ty.arr e) = true) : sub t e = true := by rwa [Ty.sub_arr] at h

/-! ### the store respects its typing, and an outcome speaks of an extension of the typing -/

theorem vt_mono {S S' : STy} (h : Ext S S') {T : Ty} {v : Val} (hv : VT S T v) : VT S' T v := ⟨hv.1, good_mono h hv.2⟩

def StoreOk (S : STy) (σ : St) : Prop :=
  σ.cells.size = S.length ∧ (∀ (loc : Nat) (ty : Ty), S[loc]? = some ty → ∃ v, σ.cells[loc]? = some v ∧ VT S ty v) ∧
    ∀ ty ∈ S, wf ty = true

/-- what a signal may be: a `return` of a value of the enclosing function's result type, a documented run-time error,
    fuel exhaustion, `break` / `continue` only inside a loop body (`lp`) - never `wrong` -/
def okSig (lp : Bool) (ret : Option Ty) (S : STy) (σ' : St) : Sig → Prop
  | .ret v => ∃ rt S', ret = some rt ∧ Ext S S' ∧ StoreOk S' σ' ∧ VT S' rt v
  | .err _ => True
  | .fuel => True
  | .brk => lp = true ∧ ∃ S', Ext S S' ∧ StoreOk S' σ'
  | .cont => lp = true ∧ ∃ S', Ext S S' ∧ StoreOk S' σ'
  | .wrong _ => False

theorem okSig_weaken {lp : Bool} {ret : Option Ty} {S S1 : STy} {σ' : St} {s : Sig} (h : Ext S S1)
    (hs : okSig lp ret S1 σ' s) : okSig lp ret S σ' s := by
  cases s with
  | ret v => obtain ⟨rt, S', h1, h2, h3, h4⟩ := hs; exact ⟨rt, S', h1, ext_trans h h2, h3, h4⟩
  | err e => trivial
  | fuel => trivial
  | brk => obtain ⟨h1, S', h2, h3⟩ := hs; exact ⟨h1, S', ext_trans h h2, h3⟩
  | cont => obtain ⟨h1, S', h2, h3⟩ := hs; exact ⟨h1, S', ext_trans h h2, h3⟩
  | wrong w => exact hs

/-- the outcome of a computation started in a store typed by `S`: a value satisfying `P` in an extended store typing that
    the final store respects, or an admissible signal -/
def OutP {α} (lp : Bool) (ret : Option Ty) (S : STy) (P : STy → α → Prop) (r : Except Sig α × St) : Prop :=
  match r with
  | (.ok a, σ') => ∃ S', Ext S S' ∧ StoreOk S' σ' ∧ P S' a
  | (.error s, σ') => okSig lp ret S σ' s

theorem outP_bind {α β} (lp : Bool) (ret : Option Ty) (S : STy) (P : STy → α → Prop) (Q : STy → β → Prop) (m : M α) (k : α → M β) (σ : St)
    (h1 : OutP lp ret S P (m σ))
    (h2 : ∀ a σ1 S1, Ext S S1 → StoreOk S1 σ1 → m σ = (.ok a, σ1) → P S1 a → OutP lp ret S1 Q (k a σ1)) :
    OutP lp ret S Q ((m >>= k) σ) := by
  cases hm : m σ with
  | mk r σ1 =>
    rw [hm] at h1
    cases r with
    | ok a =>
      obtain ⟨S1, he, hst, hp⟩ := h1
      have := h2 a σ1 S1 he hst hm hp
      rw [bind_ok hm]
      cases hk : k a σ1 with
      | mk r2 σ2 =>
        rw [hk] at this
        cases r2 with
        | ok b => obtain ⟨S2, he2, hst2, hq⟩ := this; exact ⟨S2, ext_trans he he2, hst2, hq⟩
        | error e => exact okSig_weaken he this
    | error e => rw [bind_error hm]; exact h1

theorem outP_pure {α} {lp : Bool} {ret : Option Ty} {S : STy} {P : STy → α → Prop} {a : α} {σ : St} (hst : StoreOk S σ) (h : P S a) :
    OutP lp ret S P ((pure a : M α) σ) := ⟨S, ext_refl S, hst, h⟩

theorem outP_err {α} (lp : Bool) (ret : Option Ty) (S : STy) (P : STy → α → Prop) (e : ExecErr) (σ : St) :
    OutP lp ret S P ((throwS (.err e) : M α) σ) := by simp [OutP, throwS, okSig]

theorem outP_fuel {α} (lp : Bool) (ret : Option Ty) (S : STy) (P : STy → α → Prop) (σ : St) :
    OutP lp ret S P ((throwS .fuel : M α) σ) := by simp [OutP, throwS, okSig]

theorem outP_mono {α} (lp : Bool) (ret : Option Ty) (S : STy) (P Q : STy → α → Prop) (r : Except Sig α × St) (h : OutP lp ret S P r)
    (hpq : ∀ S' a, Ext S S' → P S' a → Q S' a) : OutP lp ret S Q r := by
  obtain ⟨r1, σ'⟩ := r
  cases r1 with
  | ok a => obtain ⟨S', he, hst, hp⟩ := h; exact ⟨S', he, hst, hpq S' a he hp⟩
  | error s => exact h

def EnvOkG (S : STy) (env : Env) (g : TEnv) : Prop := ∀ x t, g.lookup x = some t → ∃ v, env.lookup x = some v ∧ VT S t v
def GWf (g : TEnv) : Prop := ∀ x t, g.lookup x = some t → wf t = true

/-- the fields of a struct type against the fields of a struct value, name by name (`BindRel (VT S)`, written out) -/
def Rel (S : STy) : List (String × Ty) → List (String × Val) → Prop
  | [], [] => True
  | (n, t) :: a, (m, v) :: b => n = m ∧ VT S t v ∧ Rel S a b
  | _, _ => False

theorem rel_iff_bindRel : ∀ (a : List (String × Ty)) (b : List (String × Val)), Rel S a b ↔ BindRel (VT S) a b
  | [], [] => Iff.rfl
  | (n, t) :: a, (m, v) :: b => by simp only [Rel, Pointwise, rel_iff_bindRel a b, and_assoc]
  | [], _ :: _ => Iff.rfl
  | _ :: _, [] => Iff.rfl

theorem rel_append (a : List (String × Ty)) (b : List (String × Val)) (c : List (String × Ty)) (d : List (String × Val))
    (h1 : Rel S a b) (h2 : Rel S c d) : Rel S (a ++ c) (b ++ d) :=
  (rel_iff_bindRel _ _).mpr (((rel_iff_bindRel _ _).mp h1).append ((rel_iff_bindRel _ _).mp h2))

theorem rel_reverse (a : List (String × Ty)) (b : List (String × Val)) (h : Rel S a b) : Rel S a.reverse b.reverse :=
  (rel_iff_bindRel _ _).mpr ((rel_iff_bindRel _ _).mp h).reverse

/-! ### `envOkG_callee`: the callee lemma (`EnvRel.callee`, which `step_F` applies) stated in the invariant's own terms -/

def ArgsOk (S : STy) : List (String × Ty) → List Val → Prop
  | [], [] => True
  | (_, t) :: ps, v :: vs => VT S t v ∧ ArgsOk S ps vs
  | _, _ => False

theorem argsRel_of_argsOk : ∀ {ps : List (String × Ty)} {args : List Val}, ArgsOk S ps args → ArgsRel (VT S) ps args
  | [], [], _ => trivial
  | (_, _) :: _, _ :: _, h => ⟨h.1, argsRel_of_argsOk h.2⟩

theorem envOkG_callee (fv : Val) (ps : List (String × Ty)) (rt : Ty) (cap : Frame) (self : Option String)
    (args : List Val) (Γ : TEnv) (hargs : ArgsOk S ps args)
    (hself : ∀ x, self = some x → VT S (.fn (ps.map (·.2)) rt) fv)
    (hcap : ∀ x t, Γ.lookup x = some t → ∃ v, frameLookup x cap = some v ∧ VT S t v) :
    EnvOkG S (calleeEnv fv ps cap self args) (bodyEnv self ps rt Γ) :=
  EnvRel.callee fv ps rt cap self args Γ (argsRel_of_argsOk hargs) hself hcap

/-! ### a good value with functions is a good value over any store typing, so `CF.good_inv` comes from the facts about `CS.Good` -/

theorem good_of_cf {S : STy} : ∀ {v : Val}, CF.Good v → Good S v
  | _, .bool b => .bool b
  | _, .int i => .int i
  | _, .float x => .float x
  | _, .str s => .str s
  | _, .unit => .unit
  | _, .arr t es w hs hg => .arr t es w hs (fun e he => good_of_cf (hg e he))
  | _, .tup es hg => .tup es (fun e he => good_of_cf (hg e he))
  | _, .fn id ps rt body cap self Γ a b c d e ⟨ts, g', hty, hmr⟩ =>
    .fn id ps rt body cap self Γ a b c d (fun x t v hx hv => good_of_cf (e x t v hx hv))
      ⟨ts, g', tyFSeq_le false _ _ body _ hty, hmr⟩

end Ssl.CS

namespace Ssl.CF
open Ssl Ssl.Ty Ssl.Val Ssl.Spec Ssl.Check Ssl.CheckF Ssl.C01

theorem good_inv : Val.Inv Good where
  bool := .bool
  int := .int
  float := .float
  str := .str
  unit := .unit
  wf_tag h := (CS.good_facts (CS.good_of_cf (S := []) h)).1
  hasTy_of_tag h := CS.hasTy_of_tagG (CS.good_of_cf (S := []) h)
  arr := ⟨fun h => by cases h with | arr _ _ a b c => exact ⟨a, b, c⟩, fun h => .arr _ _ h.1 h.2.1 h.2.2⟩
  tup := ⟨fun h => by cases h with | tup _ a => exact a, fun h => .tup _ h⟩

end Ssl.CF

namespace Ssl.CS
open Ssl Ssl.Ty Ssl.Val Ssl.Spec Ssl.Check Ssl.CheckF Ssl.CheckS Ssl.C01
open Ssl.CF (gwf_cons)
variable {S : STy}

theorem vt_unit : VT S .void .unit := ⟨by simp [asType, sub, eqv], Good.unit⟩

def RWf (ret : Option Ty) : Prop := ∀ rt, ret = some rt → wf rt = true

/-- the induction itself uses `ListOkX` (Thm/C01Level), which is this at level `S` -/
def ListOk (S : STy) (Ts : List Ty) (vs : List Val) : Prop := matchesL (asTypeL vs) Ts = true ∧ ∀ v ∈ vs, Good S v

theorem listOk_mono {S S' : STy} (h : Ext S S') {Ts : List Ty} {vs : List Val} (hl : ListOk S Ts vs) : ListOk S' Ts vs :=
  ⟨hl.1, fun v hv => good_mono h (hl.2 v hv)⟩

/-- `(a, b, ..) := (v, w, ..)`: the declared names, later ones shadowing earlier ones, respect the extended typing -/
theorem envOkG_bindAll : ∀ (xs : List String) (ts : List Ty) (vs : List Val) (env : Env) (g : TEnv),
    EnvOkG S env g → GWf g → wfL ts = true → matchesL (asTypeL vs) ts = true → (∀ v ∈ vs, Good S v) →
    EnvOkG S ((List.zip xs vs).foldl (fun en (p : String × Val) => en.insert p.1 p.2) env) (bindAll (List.zip xs ts) g) ∧
      GWf (bindAll (List.zip xs ts) g)
  | [], ts, vs, env, g, he, hg, _, _, _ => by simpa [bindAll] using ⟨he, hg⟩
  | x :: xs, [], vs, env, g, he, hg, _, hm, _ => by
    cases vs with
    | nil => simpa [bindAll] using ⟨he, hg⟩
    | cons v vs => simp [asTypeL, matchesL] at hm
  | x :: xs, t :: ts, [], env, g, he, hg, _, hm, _ => by simp [asTypeL, matchesL] at hm
  | x :: xs, t :: ts, v :: vs, env, g, he, hg, hw, hm, hgood => by
    simp only [asTypeL] at hm
    rw [matchesL] at hm
    simp only [Bool.and_eq_true] at hm
    simp only [wfL, Bool.and_eq_true] at hw
    have hv : VT S t v := ⟨hm.1, hgood v (by simp)⟩
    have := envOkG_bindAll xs ts vs (env.insert x v) ((x, t) :: g) (EnvRel.insert he x hv) (gwf_cons g x t hg hw.1) hw.2 hm.2
      (fun z hz => hgood z (by simp [hz]))
    simpa [bindAll, List.zip, List.foldl] using this

theorem outP_ok {α} {lp : Bool} {ret : Option Ty} {S : STy} {P : STy → α → Prop} {r : Except Sig α × St} {a : α} {σ : St} (h : OutP lp ret S P r)
    (hr : r = (.ok a, σ)) : ∃ S', Ext S S' ∧ StoreOk S' σ ∧ P S' a := by
  subst hr; exact h

/-! ### cells: reading, writing and allocating keep the store typed -/

theorem cell_shape {x : Val} {c : Ty} (h : VT S (.cell c) x) :
    ∃ loc ty, x = .cell loc ty ∧ eqv ty c = true ∧ S[loc]? = some ty ∧ wf ty = true := by
  obtain ⟨hs, hg⟩ := h
  cases hg with
  | cell loc ty hl w => exact ⟨loc, ty, rfl, by simpa [asType, sub_cell] using hs, hl, w⟩
  | _ => unfold asType sub eqv at hs; cases hs

theorem storeOk_read {σ : St} (hst : StoreOk S σ) {loc : Nat} {ty : Ty} (hl : S[loc]? = some ty) :
    ∃ v, readCell loc σ = (.ok v, σ) ∧ VT S ty v := by
  obtain ⟨v, hv, hvt⟩ := hst.2.1 loc ty hl
  exact ⟨v, by simp [readCell, hv], hvt⟩

theorem storeOk_write {σ : St} (hst : StoreOk S σ) {loc : Nat} {ty : Ty} (hl : S[loc]? = some ty) {v : Val} (hv : VT S ty v) :
    ∃ σ', writeCell loc v σ = (.ok (), σ') ∧ StoreOk S σ' := by
  have hlt : loc < σ.cells.size := by rw [hst.1]; exact (List.getElem?_eq_some_iff.mp hl).1
  refine ⟨{ σ with cells := σ.cells.set! loc v }, by simp [writeCell, hlt], ?_, ?_, hst.2.2⟩
  · simp [hst.1]
  · intro l t hlt2
    by_cases e : loc = l
    · subst e
      rw [hl] at hlt2
      cases hlt2
      exact ⟨v, by simp [hlt], hv⟩
    · obtain ⟨w, hw, hwt⟩ := hst.2.1 l t hlt2
      exact ⟨w, by simp [e, hw], hwt⟩

theorem storeOk_new {σ : St} (hst : StoreOk S σ) (ty : Ty) (wty : wf ty = true) {v : Val} (hv : VT S ty v) :
    ∃ σ', newCell ty v σ = (.ok (.cell S.length ty), σ') ∧ StoreOk (S ++ [ty]) σ' ∧ VT (S ++ [ty]) (.cell ty) (.cell S.length ty) := by
  have hle : Ext S (S ++ [ty]) := ⟨[ty], rfl⟩
  refine ⟨{ σ with cells := σ.cells.push v }, by simp [newCell, hst.1], ⟨by simp [hst.1], ?_, ?_⟩, ?_⟩
  · intro l t hlt
    by_cases e : l < S.length
    · rw [List.getElem?_append_left e] at hlt
      obtain ⟨w, hw, hwt⟩ := hst.2.1 l t hlt
      refine ⟨w, ?_, vt_mono hle hwt⟩
      have : l < σ.cells.size := by rw [hst.1]; exact e
      simp [Array.getElem?_push, hw]
      intro h; omega
    · have hl2 := (List.getElem?_eq_some_iff.mp hlt).1
      simp at hl2
      have e2 : l = S.length := by omega
      subst e2
      simp at hlt
      subst hlt
      exact ⟨v, by rw [← hst.1]; simp, vt_mono hle hv⟩
  · intro t ht
    rcases List.mem_append.mp ht with h | h
    · exact hst.2.2 t h
    · simp at h; subst h; exact wty
  · refine ⟨by simp only [asType, sub_cell]; exact eqv_refl ty wty, Good.cell _ _ (by simp) wty⟩

end Ssl.CS
