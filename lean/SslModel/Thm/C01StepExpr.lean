import SslModel.Thm.C01Unions
import SslModel.Thm.C01Structs
import SslModel.Thm.C06
import SslModel.Thm.C07
import SslModel.Thm.C12
/-!
# C01 / C02 (stages 3 and 4) — the step of the induction for expressions

`step_E`: one more unit of fuel for `eval`, construct by construct, over the level.  The goal is read (`Sound.of_all`) as
`(tyX l lp ret g e).All fun T => OutPX ..` - whatever type the checker model answers, the evaluation ends in an outcome of
that type - and each case reads the equation of `tyX` for its construct with the `Res.All` rules; a bind of the typing
equation goes together with the evaluation of that part under the hypothesis (`Sound.bindT`).  A construct of the
store-typed level only and the union branch of a construct of both levels get `l = S` (`tyX_S_only`, `atS_all`); in a
union branch the value is a value of one member (`union_member`), whose own case applies and whose type lies below the
answer.  The typing equation is inverted by hand (`Res.bind_ok`, `split at`) in `assign_step` and before `PE.elseBranch`, which take
it as a hypothesis, and in the union branch of `assign`, whose `match` has two discriminants.
-/
namespace Ssl.CS
open Ssl Ssl.Ty Ssl.Val Ssl.Spec Ssl.Check Ssl.CheckF Ssl.CheckS Ssl.C01
open Ssl.CF (gwf_cons)
variable {S : STy}

/-- `*x` on a cell of content type `c`: the content, of every type above `c` -/
theorem deref_value (lp : Bool) (ret : Option Ty) {x : Val} {c T : Ty} {σ : St} (hst : StoreOk S σ) (hx : VT S (.cell c) x)
    (wc : wf c = true) (hs : sub c T = true) :
    OutP lp ret S (fun S' v => VT S' T v) ((match x with
      | .cell loc _ => readCell loc
      | _ => wrong "indirection of a non-cell") σ) := by
  obtain ⟨loc, ty, rfl, hev, hl, wty⟩ := cell_shape hx
  obtain ⟨v, hrd, hv⟩ := storeOk_read hst hl
  simp only []
  rw [hrd]
  exact ⟨S, ext_refl S, hst, vt_trans (vt_trans hv (sub_of_eqv ty c wty wc hev)) hs⟩

/-- the result type of the non-`add` compound operators: the left type, or `int` with an `int` left operand -/
theorem binTy_compound (bop : BinOp) (l r rt : Ty) (h : binTy bop l r = .ok rt)
    (hb : bop = .sub ∨ bop = .mul ∨ bop = .div ∨ bop = .pow ∨ bop = .band ∨ bop = .bor ∨ bop = .bxor ∨ bop = .mod ∨ bop = .shl ∨ bop = .shr) :
    rt = l ∨ (rt = .int ∧ sub l .int = true) := by
  rcases hb with rfl | rfl | rfl | rfl | rfl | rfl | rfl | rfl | rfl | rfl <;> simp only [binTy] at h <;> split at h
  all_goals first
    | exact Or.inl (okW_ok h).1
    | (rename_i hs; cases h; right; refine ⟨rfl, ?_⟩
       simp only [pairTy, accInt, Ty.sub_tup, matchesL, Bool.and_eq_true] at hs; exact hs.1)
    | cases h

theorem assign_step (lp : Bool) (ret : Option Ty) (S : STy) (op : AssignOp) (loc : Nat) (ty cty tv T : Ty) (v : Val) (σ : St)
    (hst : StoreOk S σ) (hl : S[loc]? = some ty) (wc : wf cty = true) (wtv : wf tv = true)
    (hsub1 : sub ty cty = true) (hsub2 : sub cty ty = true) (hv : VT S tv v)
    (h3 : (match assignBase op with
           | none => if sub tv cty then okW tv else .ill
           | some BinOp.add => (binTy .add cty tv).bind fun rt => if sub rt cty then okW cty else .ill
           | some bop => (binTy bop cty tv).bind fun _ => if sub (helperRet cty tv) cty then okW cty else .ill) = .ok T) :
    OutP lp ret S (fun S' r => VT S' T r)
      ((match assignBase op with
        | none => do writeCell loc v; pure v
        | some bop => do
          let cur ← readCell loc
          let r ← liftE (binScalar bop cur v)
          writeCell loc r
          pure r) σ) := by
  -- what the compound forms share: the operator's result is a value of the cell's content type
  have compound : ∀ (bop : BinOp) (rt : Ty), binTy bop cty tv = .ok rt → T = cty →
      (sub rt cty = true ∨ rt = cty ∨ (rt = .int ∧ sub cty .int = true)) →
      OutP lp ret S (fun S' r => VT S' T r) ((do
          let cur ← readCell loc
          let r ← liftE (binScalar bop cur v)
          writeCell loc r
          pure r : M Val) σ) := by
    intro bop rt hbin hT hrt
    subst hT
    obtain ⟨cur, hrd, hcur⟩ := storeOk_read hst hl
    have hcur2 : VT S T cur := vt_trans hcur hsub1
    have hob := outX_bin (l := .S) bop T tv rt cur v hcur2 hv wc wtv hbin
    rw [Spec.bind_ok hrd]
    cases hbs : binScalar bop cur v with
    | error s => rw [hbs] at hob; obtain ⟨e, rfl⟩ := hob; exact outP_err lp ret S _ e σ
    | ok r =>
      rw [hbs] at hob
      have hr : VT S T r := by
        rcases hrt with h | h | ⟨h1, h2⟩
        · exact vt_trans hob h
        · subst h; exact hob
        · subst h1
          obtain ⟨k, rfl⟩ := vtX_int (l := .S) (vt_trans hcur2 h2)
          have : sub Ty.int T = true := by simpa [asType] using hcur2.1
          exact vt_trans hob this
      obtain ⟨σ3, hw, hst3⟩ := storeOk_write hst hl (vt_trans hr hsub2)
      rw [liftE_ok_bind, Spec.bind_ok hw]
      exact ⟨S, ext_refl S, hst3, hr⟩
  cases op <;> simp only [assignBase] at h3 ⊢
  case set =>
    split at h3
    · rename_i hs
      rw [(okW_ok h3).1]
      have hv2 : VT S ty v := vt_trans hv (sub_trans tv cty ty hs hsub2)
      obtain ⟨σ3, hw, hst3⟩ := storeOk_write hst hl hv2
      rw [Spec.bind_ok hw]
      exact ⟨S, ext_refl S, hst3, hv⟩
    · cases h3
  case add =>
    obtain ⟨rt, hbin, h4⟩ := Res.bind_ok h3
    split at h4
    · rename_i hs
      exact compound .add rt hbin (okW_ok h4).1 (Or.inl hs)
    · cases h4
  all_goals
    obtain ⟨rt, hbin, h4⟩ := Res.bind_ok h3
    split at h4
    · exact compound _ rt hbin (okW_ok h4).1 (Or.inr (binTy_compound _ cty tv rt hbin (by simp)))
    · cases h4

theorem closure_good {l : Lvl} {S : STy} {env : Env} {g : TEnv} (henv : EnvOkGX l S env g) (hg : GWf g) (id : Nat)
    (ps : List (String × Ty)) (rt : Ty) (body : List Expr) (self : Option String) (wp : wfParams ps = true) (wr : wf rt = true)
    {ts : List Ty} {g' : TEnv} (hp : tyXSeq l false (some rt) (bodyEnv self ps rt g) body = .ok (ts, g'))
    (hmr : (!sub .void rt && !ts.any (fun t => eqv t .never)) ≠ true) :
    GoodX l S (.fn id ps rt body env.snapshot self) := by
  have hsnap : ∀ x, frameLookup x env.snapshot = env.lookup x := fun x => by
    rw [← lookup_single]; exact C06.snapshot_lookup env x
  refine goodX_fn id ps rt body env.snapshot self g wp wr hg ?_ ?_ ⟨ts, g', hp, ?_⟩
  · intro x t hx
    obtain ⟨v, hv, hvt⟩ := henv x t hx
    exact ⟨v, by rw [hsnap]; exact hv, hvt.1⟩
  · intro x t v hx hv
    obtain ⟨w, hw, hwt⟩ := henv x t hx
    rw [hsnap, hw] at hv
    cases hv
    exact hwt.2
  · cases h1 : sub Ty.void rt
    · right; simpa only [h1, Bool.not_false, Bool.true_and, ne_eq, Bool.not_eq_true', Bool.not_eq_false] using hmr
    · exact Or.inl rfl

/-- the type of an iterator, as `for` and `$]` ask for it: `() -> (b, t)` -/
theorem iterTy_all {β} {P : β → Prop} {ti : Ty} {k : Ty → Ty → Res β} (wti : wf ti = true)
    (h : ∀ b t, ti = .fn [] (.tup [b, t]) → wf t = true → (k b t).All P) :
    (match ti with
      | .fn [] (.tup [b, t]) => k b t
      | .fn [] (.multi _) => .unsup
      | .multi _ => .unsup
      | .never => .unsup
      | _ => .ill).All P := by
  split
  · refine h _ _ rfl ?_
    simp only [wf, wfL, Bool.and_eq_true] at wti
    exact wti.2.2.1
  all_goals first | exact .unsup | exact .ill

/-- `&&` and `||` after the left operand: the constant that short-circuits, or the right operand -/
theorem outPX_short {l : Lvl} {lp : Bool} {ret : Option Ty} {S : STy} {σ : St} (c v : Bool) {m : M Val}
    (hst : StoreOkX l S σ) (h : OutPX l lp ret S (fun S' x => VTX l S' .bool x) (m σ)) :
    OutPX l lp ret S (fun S' x => VTX l S' .bool x) ((if c then pure (.bool v) else m) σ) := by
  cases c
  · exact h
  · exact outPX_pure hst ⟨by simp [asType, sub, eqv], (goodX_inv l _).bool _⟩

theorem step_E (f : Nat) (ih : AllAt f) : PE (f + 1) := by
  refine Sound.of_all fun l lp ret S g env e σ henv hg hst => ?_
  cases e with
  | litBool _ | litInt _ | litFloat _ | litStr _ | litUnit =>
    simp only [tyX_litBool, tyX_litInt, tyX_litFloat, tyX_litStr, tyX_litUnit, eval]
    exact .ok (outPX_pure hst ⟨by simp [asType, sub, eqv], inv_of_plain (goodX_inv l _) (by simp [plain])⟩)
  | var x =>
    simp only [tyX_var]
    split
    · rename_i t hl
      refine okW_allP fun _ => ?_
      obtain ⟨w, hw, h1⟩ := henv x _ hl
      simp only [eval, hw]
      exact outPX_pure hst h1
    · exact .ill
  | bin op a b =>
    simp only [tyX_bin]
    by_cases hop : isIterOp op = false
    · rw [eval_bin_scalar f env op a b hop]
      refine ih.expr.bindT henv hg hst fun ta hta x σ1 S hle hst henv hx => ?_
      refine ih.expr.bindT henv hg hst fun tb htb y σ2 S hle hst henv hy T h3 => ?_
      exact outPX_liftE hst
        (outX_bin op ta tb T x y (vtX_mono hle hx) hy (tyX_wf l lp ret g a ta hta) (tyX_wf l lp ret g b tb htb) h3)
    · refine .bind fun ta _ => .bind fun tb _ T h3 => ?_
      cases op <;> simp [isIterOp] at hop <;> (simp only [binTy] at h3; cases h3)
  | pre op a =>
    cases op with
    | deref =>
      refine tyX_S_only (by unfold tyF; rfl) fun hl => ?_
      subst hl
      simp only [tyS, eval]
      refine ih.expr.bindT (l := .S) henv hg hst fun ta hta x σ1 S hle hst henv hx => ?_
      have wta := tyS_wf lp ret g a ta hta
      cases ta with
      | cell c =>
        have wc : wf c = true := wta
        exact okW_allP fun _ => deref_value lp ret hst hx wc (sub_refl c wc)
      | multi ms =>
        refine .iteP (fun _ => .ill) fun _ => .optTy (fun T hq => okW_allP fun wT => ?_) fun _ => .unsup
        obtain ⟨m, tm, _, wm, hxm, hbm, hsub⟩ := union_member wf_of_cell wta hq hx
        cases m <;> cases hbm
        exact deref_value lp ret hst hxm wm hsub
      | never => exact .unsup
      | _ => exact .ill
    | not | neg =>
      simp only [tyX_not, tyX_neg, eval]
      exact ih.expr.bindT henv hg hst fun ta hta x σ1 S hle hst henv hx => .iteP (fun hs => okW_allP fun _ =>
        outPX_liftE hst (CF.inv_out_pre (goodX_inv l S) _ _ ta x (by simp) hx.1 hx.2 hs)) fun _ => .ill
  | and a b | or a b =>
    simp only [tyX_and, tyX_or, eval]
    refine .bind fun ta hta => .bind fun tb htb => .iteP (fun hb => .ok ?_) fun _ => .ill
    simp only [Bool.and_eq_true] at hb
    obtain rfl := eq_of_eqv_bool hb.1
    obtain rfl := eq_of_eqv_bool hb.2
    refine ih.expr.bindBool henv hg hst hta fun k σ2 S hle hst henv => ?_
    exact outPX_short _ _ hst (ih.expr l lp ret S g env b .bool σ2 henv hg hst htb)
  | array es =>
    simp only [tyX_array, eval]
    refine ih.list.bindT henv hg hst
      fun ts hts vs σ1 S hle hst henv hvs => okW_allP fun _ => ?_
    apply outPX_pure hst
    refine ⟨?_, (goodX_inv l _).mkArray vs hvs.2⟩
    simp only [Val.mkArray, asType, Ty.sub_arr]
    exact concatL_mono (asTypeL vs) ts (tyXList_wf l lp ret g es ts hts) hvs.1
  | tuple es =>
    simp only [tyX_tuple, eval]
    exact .iteP (fun _ => .unsup) fun _ => ih.list.bindT henv hg hst
      fun ts hts vs σ1 S hle hst henv hvs => okW_allP fun _ => outPX_pure hst
        ⟨by simp only [asType, Ty.sub_tup]; exact hvs.1, (goodX_inv l _).tup.mpr hvs.2⟩
  | «at» a i =>
    simp only [tyX_at, eval]
    refine ih.expr.bindT henv hg hst fun ta hta x σ1 S hle hst henv hx => ?_
    refine ih.expr.bindT henv hg hst fun ti hti y σ2 S hle hst henv hy => .iteP (fun _ => .ill) fun hint => ?_
    have wta := tyX_wf l lp ret g a ta hta
    replace hx := vtX_mono hle hx
    obtain rfl := eq_of_eqv_int (by simpa using hint)
    obtain ⟨k, rfl⟩ := vtX_int hy
    cases ta with
    | arr e => exact okW_allP fun _ => at_value l lp ret x k _ e σ2 hst hx (Or.inl rfl)
    | str => exact .ok (at_value l lp ret x k _ .str σ2 hst hx (Or.inr ⟨rfl, rfl⟩))
    | multi ms =>
      refine atS_all l fun hl => .iteP (fun _ => .ill) fun _ => .optTy (fun T hq => okW_allP fun wT => ?_) fun _ => .unsup
      subst hl
      obtain ⟨m, tm, _, _, hxm, hbm, hsub⟩ := union_member wf_of_index wta hq hx
      exact outPX_up (at_value .S lp ret x k m tm σ2 hst hxm (by cases m <;> cases hbm <;> simp)) hsub
    | never => exact .unsup
    | _ => exact .ill
  | tacc a n =>
    simp only [tyX_tacc, eval]
    refine ih.expr.bindT henv hg hst fun ta hta x σ1 S hle hst henv hx => ?_
    have wta := tyX_wf l lp ret g a ta hta
    cases ta with
    | tup ts =>
      refine .optTy (fun t htx => okW_allP fun _ => ?_) fun _ => .ill
      obtain ⟨vs, w, rfl, hw, hvw⟩ := tacc_value hx htx
      simp only [hw]
      exact outPX_pure hst hvw
    | multi ms =>
      refine atS_all l fun hl => .iteP (fun _ => .ill) fun _ => ?_
      subst hl
      cases minTupleLen (.multi ms) with
      | none => exact .unsup
      | some len =>
        refine .iteP (fun _ => .optTy (fun T hq => okW_allP fun wT => ?_) fun _ => .unsup) fun _ => .ill
        obtain ⟨m, tm, _, _, hxm, hbm, hsub⟩ := union_member (wf_of_tupAt n) wta hq hx
        cases m <;> try cases hbm
        obtain ⟨vs, w, rfl, hw, hvw⟩ := tacc_value (l := .S) hxm hbm
        simp only [hw]
        exact outPX_pure hst (vtX_trans hvw hsub)
    | never => exact .unsup
    | _ => exact .ill
  | ifElse c t e =>
    simp only [tyX_ifElse, eval]
    refine .bind fun tc htc => .iteP (fun _ => .ill) fun hb => .bind fun tt htt => fun T h3 => ?_
    have wtt := tyX_wf l lp ret g t tt htt
    have hb' : eqv tc .bool = true ∨ eqv tc .never = true := by
      simpa only [Bool.not_eq_true', Bool.not_eq_false, Bool.or_eq_true] using hb
    rcases hb' with h | h
    · obtain rfl := eq_of_eqv_bool h
      refine ih.expr.bindBool henv hg hst htc fun k σ2 S hle hst henv => ?_
      obtain ⟨hup, helse⟩ := ih.expr.elseBranch henv hg hst wtt h3
      cases k
      · simp only [Bool.false_eq_true, if_false]
        exact helse
      · simp only [if_true]
        exact outPX_mono (ih.expr l lp ret S g env t tt σ2 henv hg hst htt) (fun _ v _ hv => vtX_trans hv hup)
    · -- a condition of type `!` yields no value
      obtain rfl := eq_of_eqv_never h
      exact ih.expr.bind henv hg hst htc fun x σ1 S hle hst henv hx => absurd hx (vtX_never x)
  | block body =>
    simp only [tyX_block, eval]
    exact ih.seq.bindT (EnvRel.push henv) hg hst
      fun p hp r σ1 S hle hst henv hr1 => okW_allP fun _ => outPX_pure hst hr1.1
  | ifSet x ty e body els =>
    simp only [tyX_ifSet, eval]
    refine .iteP (fun _ => .unsup) fun hwty => .bind fun te hte => .bind fun tb htb => fun T h3 => ?_
    have wty : wf ty = true := by simpa using hwty
    have wtb := tyX_wf l _ _ _ body tb htb
    refine ih.expr.bind henv hg hst hte fun x0 σ1 S hle hst henv hx0 => ?_
    obtain ⟨hup, helse⟩ := ih.expr.elseBranch henv hg hst wtb h3
    by_cases hm : Ty.sub x0.asType ty = true
    · simp only [hm, if_true]
      exact outPX_mono (ih.expr l lp ret S ((x, ty) :: g) ([(x, x0)] :: env) body tb σ1 (EnvRel.bind henv x ⟨hm, hx0.2⟩) (gwf_cons g x ty hg wty) hst htb)
        (fun _ v _ hv => vtX_trans hv hup)
    · simp only [hm, Bool.false_eq_true, if_false]
      exact helse
  | arrayRepeat a n =>
    simp only [tyX_arrayRepeat, eval]
    refine ih.expr.bindT henv hg hst fun tv htv x σ1 S hle hst henv hx => ?_
    refine ih.expr.bindT henv hg hst fun tn htn y σ2 S hle hst henv hy =>
      .iteP (fun _ => .ill) fun _ => .iteP (fun _ => .unsup) fun hint => okW_allP fun _ => ?_
    obtain rfl := eq_of_eqv_int (by simpa using hint)
    replace hx := vtX_mono hle hx
    obtain ⟨k, rfl⟩ := vtX_int hy
    simp only []
    split
    · exact outPX_err _ _ _ _ _ _ _
    · apply outPX_pure hst
      refine ⟨by simp only [asType, Ty.sub_arr]; exact hx.1, ?_⟩
      have wx := (goodX_inv l _).wf_tag hx.2
      exact (goodX_inv l _).arr.mpr ⟨wx, fun z hz => by rw [List.eq_of_mem_replicate hz]; exact sub_refl _ wx,
        fun z hz => by rw [List.eq_of_mem_replicate hz]; exact hx.2⟩
  | slice a st en sp =>
    simp only [tyX_slice, eval]
    refine ih.expr.bindT henv hg hst fun ta hta x σ1 S hle hst henv hx => ?_
    refine ih.opt.bindT henv hg hst fun ts hts vs σ2 S hle hst henv r1 => ?_
    replace hx := vtX_mono hle hx
    refine ih.opt.bindT henv hg hst fun te hte ve σ3 S hle hst henv r2 => ?_
    replace hx := vtX_mono hle hx
    replace r1 := optRelX_mono hle r1
    refine ih.opt.bindT henv hg hst fun tp htp vp σ4 S hle hst henv r3 =>
      .iteP (fun _ => .ill) fun hci => .iteP (fun _ => .ill) fun hb => ?_
    replace hx := vtX_mono hle hx
    replace r1 := optRelX_mono hle r1
    replace r2 := optRelX_mono hle r2
    have wta := tyX_wf l lp ret g a ta hta
    have hb' : (boundOk ts = true ∧ boundOk te = true) ∧ boundOk tp = true := by
      simpa only [Bool.not_eq_true', Bool.not_eq_false, Bool.and_eq_true] using hb
    obtain ⟨i1, e1⟩ := (goodX_inv l _).optIdx_ok vs ts r1 hb'.1.1
    obtain ⟨i2, e2⟩ := (goodX_inv l _).optIdx_ok ve te r2 hb'.1.2
    obtain ⟨i3, e3⟩ := (goodX_inv l _).optIdx_ok vp tp r3 hb'.2
    cases ta with
    | arr e => exact okW_allP fun _ => slice_value l lp ret x _ vs ve vp i1 i2 i3 σ4 hst e1 e2 e3 hx (Or.inl ⟨e, rfl⟩)
    | str => exact .ok (slice_value l lp ret x _ vs ve vp i1 i2 i3 σ4 hst e1 e2 e3 hx (Or.inr rfl))
    | multi ms =>
      refine atS_all l fun hl => okW_allP fun _ => ?_
      subst hl
      obtain ⟨m, hm, hxm⟩ := vt_member hx
      exact outPX_up (slice_value .S lp ret x m vs ve vp i1 i2 i3 σ4 hst e1 e2 e3 hxm
        (Ty.canBeIndexed_member wta (by simpa using hci) hm).symm) (member_below_union ms wta m hm)
    | _ => exact .unsup
  | matchE e arms =>
    simp only [tyX_matchE, eval]
    refine .bind fun te hte => .bind fun tys htys => .iteP (fun _ => .ill) fun hcov => okW_allP fun wC => ?_
    refine ih.expr.bind henv hg hst hte fun v0 σ1 S hle hst henv hv0 => ?_
    obtain ⟨s1, s2⟩ := Val.tag_shape _
    have hex := C12.coverage_of_sub (armKinds arms) v0.asType te s1 s2 hv0.1 (by simpa using hcov)
    have wts := tyXArms_wf l lp ret g arms tys htys
    exact outPX_mono (ih.arms l lp ret S g env v0 arms tys σ1 henv hg hst hv0.2 htys hex)
      (fun _ r _ ⟨t, htm, hvt⟩ => vtX_trans hvt (members_sub_concatL tys wts t htm))
  | fn ps rt body =>
    simp only [tyX_fn, eval]
    refine .iteP (fun _ => .unsup) fun hwf => .bind fun ⟨ts, g'⟩ hp => .iteP (fun _ => .ill) fun hmr => okW_allP fun wT => ?_
    have hwf' : wfParams ps = true ∧ wf rt = true := by simpa using hwf
    refine outPX_bindEnv (outPX_freshId l lp ret S σ hst) henv fun id σ1 S hle hst henv _ => ?_
    apply outPX_pure hst
    exact ⟨by simp only [asType]; exact sub_refl _ wT,
      closure_good henv hg id ps rt body none hwf'.1 hwf'.2 (by simpa [bodyEnv] using hp) hmr⟩
  | call fe args =>
    simp only [tyX_call, eval]
    refine ih.expr.bindT henv hg hst fun tf htf fv σ1 S hle hst henv hfv => ?_
    refine ih.list.bindT henv hg hst fun tas htas vs σ2 S hle hst henv hvs => ?_
    have wtf := tyX_wf l lp ret g fe tf htf
    replace hfv := vtX_mono hle hfv
    cases tf with
    | fn pts rt =>
      refine .iteP (fun hargs => okW_allP fun _ => ?_) fun _ => .ill
      exact ih.call l lp ret S fv vs pts rt σ2 hst hfv.2 hfv.1 ⟨matchesL_argsOk _ tas pts hvs.1 hargs, hvs.2⟩
    | multi ms =>
      refine atS_all l fun hl => .iteP (fun _ => .ill) fun _ => ?_
      subst hl
      cases hp : params (.multi ms) with
      | none => exact .ill
      | some pts =>
        refine .optTy (fun rt hrt => .iteP (fun hargs => okW_allP fun _ => ?_) fun _ => .ill) fun _ => .unsup
        obtain ⟨m, tm, hm, _, hfm, hbm, hsub⟩ := union_member wf_of_ret wtf hrt hfv
        obtain ⟨_, hpm⟩ := params_lower ms pts (wfL_of_multi wtf) hp
        obtain ⟨mps, mrt, rfl, hlow⟩ := hpm m hm
        obtain rfl : mrt = tm := Option.some.inj hbm
        have h2 := matchesL_argsOk _ pts mps (matchesL_argsOk _ tas pts hvs.1 hargs) hlow
        exact outPX_up (ih.call .S lp ret S fv vs mps mrt σ2 hst hfm.2 hfm.1 ⟨h2, hvs.2⟩) hsub
    | never => exact .unsup
    | _ => exact .ill
  | ret e =>
    cases ret with
    | none => simp only [tyX_ret_top]; exact .ill
    | some rt =>
      cases e with
      | some e =>
        simp only [tyX_ret_some, eval]
        exact ih.expr.bindT henv hg hst fun te hte v σ1 S hle hst henv hv => .iteP
          (fun hs => .ok (outPX_ret hst (vtX_trans hv hs))) fun _ => .ill
      | none =>
        simp only [tyX_ret_none, eval]
        exact .iteP (fun hs => .ok (outPX_ret hst ⟨by simpa [asType] using hs, (goodX_inv l _).unit⟩)) fun _ => .ill
  | mutE oty e =>
    refine tyX_S_only (by unfold tyF; rfl) fun hl => ?_
    subst hl
    cases oty with
    | none => simp only [tyS]; exact .unsup
    | some ty =>
      simp only [tyS, eval, Option.getD]
      refine .iteP (fun _ => .unsup) fun hwty => ih.expr.bindT (l := .S) henv hg hst fun te hte v σ1 S hle hst henv hv =>
        .iteP (fun hs => okW_allP fun _ => ?_) fun _ => .ill
      have wty : wf ty = true := by simpa using hwty
      obtain ⟨σ2, hn, hst2, hc⟩ := storeOk_new hst ty wty (vt_trans hv hs)
      rw [hn]
      exact ⟨S ++ [ty], ⟨[ty], rfl⟩, hst2, hc⟩
  | assign op target value =>
    refine tyX_S_only (by unfold tyF; rfl) fun hl => ?_
    subst hl
    simp only [tyS, eval]
    refine ih.expr.bindT (l := .S) henv hg hst fun tt htt c σ1 S hle hst henv hc => ?_
    refine ih.expr.bindT (l := .S) henv hg hst fun tv htv v σ2 S hle hst henv hv T h3 => ?_
    have wtt := tyS_wf lp ret g target tt htt
    have wtv := tyS_wf lp ret g value tv htv
    replace hc := vt_mono hle hc
    cases tt with
    | cell cty =>
      simp only [] at h3
      have wc : wf cty = true := wtt
      obtain ⟨loc, ty, rfl, hev, hl, wty⟩ := cell_shape hc
      obtain ⟨hsub1, hsub2⟩ := sub_of_eqv_both ty cty wty wc hev
      simp only []
      exact assign_step lp ret S op loc ty cty tv T v σ2 hst hl wc wtv hsub1 hsub2 hv h3
    | multi ms =>
      simp only [] at h3
      cases hop : assignBase op with
      | some bop => rw [hop] at h3; cases h3
      | none =>
        rw [hop] at h3
        simp only [] at h3
        split at h3
        · rename_i e0 A he ha
          split at h3
          · rename_i hs
            rw [(okW_ok h3).1]
            obtain ⟨m, hm, hcm⟩ := vt_member hc
            have wl := wfL_of_multi wtt
            have wm := wfL_mem wl hm
            obtain ⟨_, hmem⟩ := mutAssignType_lower ms A wl ha
            obtain ⟨cm, rfl, hAc⟩ := hmem m hm
            have wc : wf cm = true := wm
            obtain ⟨loc, ty, rfl, hev, hl, wty⟩ := cell_shape hcm
            obtain ⟨hsub1, hsub2⟩ := sub_of_eqv_both ty cm wty wc hev
            have hvc : sub tv cm = true := sub_trans tv A cm hs hAc
            simp only []
            have hstep := assign_step lp ret S op loc ty cm tv tv v σ2 hst hl wc wtv hsub1 hsub2 hv
              (by rw [hop]; simp only [hvc, if_true]; simp [okW, wtv])
            rw [hop] at hstep
            exact hstep
          · cases h3
        · cases h3
    | _ => simp only [] at h3; cases h3
  | loop body =>
    refine tyX_S_only (by unfold tyF; rfl) fun hl => ?_
    subst hl
    simp only [tyS, eval]
    exact .bind fun t htb => .ok (ih.loop lp ret S g env body t σ henv hg hst htb)
  | «while» c body =>
    refine tyX_S_only (by unfold tyF; rfl) fun hl => ?_
    subst hl
    simp only [tyS, eval]
    refine .bind fun tc htc => .iteP (fun _ => .ill) fun hb => .bind fun t htb => .ok ?_
    obtain rfl := eq_of_eqv_bool (by simpa using hb)
    exact ih.whileL lp ret S g env c body t σ henv hg hst htc htb
  | whileSet x ty e body =>
    refine tyX_S_only (by unfold tyF; rfl) fun hl => ?_
    subst hl
    simp only [tyS, eval]
    exact .iteP (fun _ => .unsup) fun hwty => .bind fun t1 ht1 => .bind fun t htb =>
      .ok (ih.whileSet lp ret S g env x ty e body t1 t σ henv hg hst (by simpa using hwty) ht1 htb)
  | forE x it body =>
    refine tyX_S_only (by unfold tyF; rfl) fun hl => ?_
    subst hl
    simp only [tyS, eval]
    refine ih.expr.bindT (l := .S) henv hg hst fun ti hti itv σ1 S hle hst henv hitv => ?_
    have wti := tyS_wf lp ret g it ti hti
    refine iterTy_all wti fun b t hb wt => .iteP (fun _ => .ill) fun hb => .bind fun T0 htb => .ok ?_
    subst ti
    have henv2 : EnvOkG S ([("$iter", itv)] :: env) (("$iter", Ty.fn [] (.tup [b, t])) :: g) :=
      EnvRel.bind henv "$iter" hitv
    exact ih.forL lp ret S _ _ x itv body b t T0 σ1 henv2 (gwf_cons g "$iter" _ hg wti) hst hitv (by simpa using hb) wt htb
  | struct fs =>
    refine tyX_S_only (by unfold tyF; rfl) fun hl => ?_
    subst hl
    simp only [tyS, eval]
    refine outPX_bindT (l := .S) (fun fts hfts => ih.fields lp ret S g env fs fts σ henv hg hst hfts) henv
      fun fts hfts vs σ1 S hle hst henv hvs => okW_allP fun _ => ?_
    exact outP_pure hst (struct_literal fts vs hvs)
  | facc e k =>
    refine tyX_S_only (by unfold tyF; rfl) fun hl => ?_
    subst hl
    simp only [tyS, eval]
    refine ih.expr.bindT (l := .S) henv hg hst fun te hte x σ1 S hle hst henv hx => ?_
    have wte := tyS_wf lp ret g e _ hte
    cases te with
    | struct fts =>
      refine .optTy (fun t hk => okW_allP fun _ => ?_) fun _ => .ill
      obtain ⟨fs, v, rfl, hv, hvt⟩ := field_value hx hk
      simp only [hv]
      exact outP_pure hst hvt
    | multi ms =>
      refine .iteP (fun _ => .ill) fun _ => .iteP (fun _ => .ill) fun _ => .optTy (fun T hq => okW_allP fun wT => ?_) fun _ => .unsup
      obtain ⟨m, tm, _, _, hxm, hbm, hsub⟩ := union_member (wf_of_field k) wte hq hx
      cases m <;> try cases hbm
      obtain ⟨fs, v, rfl, hv, hvt⟩ := field_value hxm hbm
      simp only [hv]
      exact outP_pure hst (vt_trans hvt hsub)
    | never => exact .unsup
    | _ => exact .ill
  | post op e =>
    refine tyX_S_only (by unfold tyF; rfl) fun hl => ?_
    subst hl
    cases op with
    | collect =>
      simp only [tyS, eval]
      refine ih.expr.bindT (l := .S) henv hg hst fun ti hti itv σ1 S hle hst henv hitv => ?_
      refine iterTy_all (tyS_wf lp ret g e ti hti) fun b t hb wt => .iteP (fun _ => .ill) fun hb => okW_allP fun _ => ?_
      subst ti
      obtain rfl := eq_of_eqv_bool (by simpa using hb)
      refine outP_bind lp ret S _ _ _ _ σ1 (ih.collect lp ret S itv [] t σ1 hst hitv (by simp)) fun vs σ2 S hle hst _ hvs => ?_
      apply outP_pure hst
      have hgood : ∀ v ∈ vs, Good S v := fun v hv => (hvs v hv).2
      refine ⟨?_, good_inv.mkArray vs hgood⟩
      simp only [Val.mkArray, asType, Ty.sub_arr]
      refine concatL_least (asTypeL vs) t ?_
      intro ty hty
      obtain ⟨v, hv, rfl⟩ := mem_asTypeL vs ty hty
      exact (hvs v hv).1
    | _ => unfold tyS; exact .unsup
  | brk | cont =>
    refine tyX_S_only (by unfold tyF; rfl) fun hl => ?_
    subst hl
    simp only [tyS, eval, throwS]
    exact .iteP (fun hlp => .ok ⟨hlp, S, ext_refl S, hst⟩) fun _ => .ill
  | modE _ | tfilter _ _ | reduce _ _ _ | set _ _ | destruct _ _ | fndecl _ _ _ _ | native _ =>
    exact tyX_S_only (by unfold tyF; rfl) fun _ => by unfold tyS; exact .unsup

end Ssl.CS
