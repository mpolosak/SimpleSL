import SslModel.Lemmas.TypingFull
import SslModel.Lemmas.SpecEq
import SslModel.Gen.ExecErrors
/-!
# C01 — type soundness (stage 1: values, subtyping, operators)

`Val.hasTy v T` is membership of a run-time value in a type judged by *contents*, recursively;
`Ty.sub` is the model of `Type::matches`.  This is stage 1, facts about values, types and single
operators: moving along the subtype relation preserves membership (`matches_sound`, stated for well-formed
types and function values that carry a well-formed signature, and `matches_sound_partial`, stated for first-order
cell-free values, are both `Val.hasTy_of_sub`, which holds of ALL values and all types), and the
results of the scalar operators and of indexing have the types the checker assigns.  That every value an accepted
program produces inhabits the static type of the expression that produced it is proved in the later
stages, for the fragments of the checker models: `C01.eval_sound` / `C01.program_sound` (first-order
fragment, next to `C02.eval_not_wrong`), `CF.eval_outcome` / `CF.program_outcome` (with functions),
`CS.eval_outcome` / `CS.program_outcome` / `CS.cells_keep_their_types` (with cells, loops, unions,
structs) and `CS.folded_program_sound` (through the folding pass).  Outside those fragments (the
built-in iterator operators, modules, inferred `mut e`) nothing is proved: for the running
implementation the statement is decided by the in-crate monitor (cargo feature `verif`) on generated
programs — see tools/props/c01.py.
-/
namespace Ssl.C01
open Ssl Ssl.Ty Ssl.Val Ssl.Spec

-- this statement and the next keep side conditions their proof does not use
set_option linter.unusedVariables false in
/-- whenever `A` matches `B`, every (first-order, cell-free) value of `A` is a value of `B` -/
theorem matches_sound_partial (v : Val) (A B : Ty) (hv : fo v = true)
    (h : sub A B = true) (hA : hasTy v A = true) : hasTy v B = true :=
  hasTy_of_sub v A B h hA

set_option linter.unusedVariables false in
/-- **whenever `A` matches `B`, every value of `A` is a value of `B`** (all values: functions,
    cells, arbitrarily nested; the hypotheses of well-formedness are not used) -/
theorem matches_sound (v : Val) (A B : Ty) (hv : okv v = true) (wA : wf A = true) (wB : wf B = true)
    (h : sub A B = true) (hA : hasTy v A = true) : hasTy v B = true :=
  hasTy_of_sub v A B h hA

/-- non-vacuity: a cell inside a tuple, moved from `(int, mut int)` to `(int|string, mut int) | bool` -/
example : hasTy (.tup [.int 1, .cell 0 .int]) (.tup [.int, .cell .int]) = true ∧
    sub (.tup [.int, .cell .int]) (.multi [.tup [.multi [.int, .str], .cell .int], .bool]) = true ∧
    okv (.tup [.int 1, .cell 0 .int]) = true := by
  refine ⟨by simp [hasTy, hasTyL, eqv], by simp [sub, anyMatch, matchesL, eqv], by simp [okv, okvL]⟩

theorem any_contains_everything (v : Val) : hasTy v .any = true := hasTy_any v
theorem never_is_empty (v : Val) : hasTy v .never = false := hasTy_never v

/-- a value belongs to a union exactly when it belongs to one of its members -/
theorem union_membership (v : Val) (ms : List Ty) :
    hasTy v (.multi ms) = true ↔ ∃ m ∈ ms, hasTy v m = true := by
  rw [hasTy_multi, hasTyAny_iff]

/-- arrays: every element in the element type (the stored tag is irrelevant) -/
theorem array_membership (t : Ty) (es : List Val) (e : Ty) :
    hasTy (.arr t es) (.arr e) = true ↔ ∀ x ∈ es, hasTy x e = true := by
  rw [hasTy_arr, allHasTy_iff]

/-- the empty array belongs to every array type (`[]`, `[v; 0]`, empty slices, empty collects) -/
theorem empty_array_in_every_array_type (t e : Ty) : hasTy (.arr t []) (.arr e) = true := by
  rw [array_membership]; intro x hx; cases hx

def isArith : IntExpr → Bool
  | .lt | .le | .gt | .ge => false
  | _ => true

theorem arith_eval_int (e : IntExpr) (h : isArith e = true) (a b : I64) : ∃ i, e.eval a b = .int i := by
  cases e <;> simp [isArith] at h <;> exact ⟨_, rfl⟩

theorem interp_arith_int (op : IntOp) (h : isArith op.body = true) (a b : I64) (r : Val)
    (hr : ofScalar (op.interp a b) = .ok r) : hasTy r .int = true := by
  unfold IntOp.interp at hr
  split at hr
  · simp [ofScalar] at hr
  · obtain ⟨i, hi⟩ := arith_eval_int op.body h a b
    rw [hi] at hr; simp [ofScalar] at hr; subst hr; simp [hasTy]

theorem interp_cmp_bool (op : IntOp) (h : isArith op.body = false) (a b : I64) (r : Val)
    (hr : ofScalar (op.interp a b) = .ok r) : ∃ k, r = .bool k := by
  unfold IntOp.interp at hr
  split at hr
  · simp [ofScalar] at hr
  · cases hb : op.body <;> simp [hb, isArith] at h <;> (simp [hb, IntExpr.eval, ofScalar] at hr; exact ⟨_, hr.symm⟩)

/-- the integer arms regenerated from the sources all compute integers -/
theorem int_arith_yields_int (op : BinOp) (x y : I64) (r : Val)
    (hop : op = .add ∨ op = .sub ∨ op = .mul ∨ op = .div ∨ op = .mod ∨ op = .pow ∨ op = .band ∨
           op = .bor ∨ op = .bxor ∨ op = .shl ∨ op = .shr)
    (h : binScalar op (.int x) (.int y) = .ok r) : hasTy r .int = true := by
  -- eleven rows of the regenerated table: each arm of `binScalar` runs one `Gen.*` operator
  rcases hop with rfl | rfl | rfl | rfl | rfl | rfl | rfl | rfl | rfl | rfl | rfl <;>
    simp only [binScalar] at h <;>
    exact interp_arith_int _ (by decide) x y r h

theorem comparison_yields_bool (op : BinOp) (x y : Val) (r : Val)
    (hop : op = .eq ∨ op = .ne) (h : binScalar op x y = .ok r) : hasTy r .bool = true := by
  -- both arms of `binScalar` answer `.ok (.bool _)` whatever the operands are
  rcases hop with rfl | rfl
  · cases (h : Except.ok (Val.bool (veq x y)) = .ok r); simp [hasTy]
  · cases (h : Except.ok (Val.bool (!veq x y)) = .ok r); simp [hasTy]

theorem float_arith_yields_float (op : BinOp) (x y : F64) (r : Val)
    (hop : op = .add ∨ op = .sub ∨ op = .mul ∨ op = .div ∨ op = .pow)
    (h : binScalar op (.float x) (.float y) = .ok r) : hasTy r .float = true := by
  rcases hop with rfl | rfl | rfl | rfl | rfl <;> (cases (h : Except.ok (Val.float _) = .ok r); simp [hasTy])

theorem string_concat_yields_string (x y : String) (r : Val)
    (h : binScalar .add (.str x) (.str y) = .ok r) : hasTy r .str = true := by
  cases (h : Except.ok (Val.str (x ++ y)) = .ok r); simp [hasTy]

/-- indexing an array whose elements are all in `e` yields a value in `e` (`index_result`) -/
theorem index_yields_element (t : Ty) (es : List Val) (e : Ty) (i : I64) (x : Val)
    (hes : hasTy (.arr t es) (.arr e) = true) (h : atVal (.arr t es) (.int i) = .ok x) :
    hasTy x e = true :=
  (array_membership t es e).mp hes x (atVal_mem t es i x h)

theorem index_string_yields_string (s : String) (i : I64) (x : Val)
    (h : atVal (.str s) (.int i) = .ok x) : hasTy x .str = true := by
  simp only [atVal] at h
  split at h
  · split at h
    · cases h; simp [hasTy]
    · simp at h
  · simp at h

/-- the six run-time errors of the model are exactly the variants of `ExecError` in the source -/
theorem runtime_errors_are_the_documented_ones :
    [ExecErr.IndexOutOfBounds, .NegativeExponent, .NegativeLength, .OverflowShift, .ZeroDivision,
     .ZeroModulo].map ExecErr.name = Gen.execErrors := rfl

/-! ## non-vacuity -/
example : fo (.arr .int [.int 1, .tup [.str "a", .unit]]) = true := by simp [fo, foL]
example : sub (.arr .int) (.arr (.multi [.int, .str])) = true ∧
    hasTy (.arr .never [.int 1]) (.arr .int) = true := by
  constructor
  · rw [sub_arr, sub_multi_right _ _ rfl rfl, anyMatch_eq]; simp [sub_scalar_refl]
  · rw [array_membership]; intro x hx; simp at hx; subst hx; simp [hasTy]

end Ssl.C01
