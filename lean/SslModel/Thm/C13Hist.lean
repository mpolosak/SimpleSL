import SslModel.Thm.C13
/-!
# C13 — histories: the store refines the map "location ↦ last value written"

`Thm/C13.lean` states the single-step facts (a write is read back, other cells are untouched, `mut` is fresh).
Here they are lifted to EVERY history of cell creations and writes through any aliases: the abstract specification
is the simplest possible one - a list of contents indexed by location, `alloc` appends, `write` replaces - and the
store of the reference semantics, driven by `newCell` / `writeCell`, is proved equal to it after any operation
sequence (`run_refines`); hence a read through ANY copy of a cell value (a copy holds the location) returns the
last value written through any other copy, or the initial value if there was none (`read_last_write`), a write
never changes the number of cells or any other cell (`run_size`, `C13.write_other_unchanged`), and locations handed
out by `mut` are never handed out twice (`alloc_fresh`).
-/
namespace Ssl.C13
open Ssl Ssl.Spec

/-- an operation on the store: `mut ty v` or an assignment of `v` through a cell value holding `loc` -/
inductive Op where
  | alloc (ty : Ty) (v : Val)
  | write (loc : Nat) (v : Val)

/-- the abstract specification: the list of cell contents -/
def specStep (cs : List Val) : Op → List Val
  | .alloc _ v => cs ++ [v]
  | .write loc v => if loc < cs.length then cs.set loc v else cs

/-- the reference semantics' store under the same operation (a dangling write is an error and changes nothing) -/
def implStep (σ : St) : Op → St
  | .alloc ty v => (newCell ty v σ).2
  | .write loc v => (writeCell loc v σ).2

theorem step_refines (σ : St) (op : Op) : (implStep σ op).cells.toList = specStep σ.cells.toList op := by
  cases op with
  | alloc ty v => simp [implStep, specStep, newCell]
  | write loc v =>
    simp only [implStep, specStep, writeCell]
    by_cases h : loc < σ.cells.size
    · simp [h]
    · simp [h]

/-- after ANY history the store is the abstract map -/
theorem run_refines (ops : List Op) (σ : St) :
    (ops.foldl implStep σ).cells.toList = ops.foldl specStep σ.cells.toList := by
  induction ops generalizing σ with
  | nil => rfl
  | cons op ops ih => simp only [List.foldl_cons]; rw [ih, step_refines]

/-- the last write to `loc` in a history, if any -/
def lastWrite (loc : Nat) : List Op → Option Val
  | [] => none
  | .write l v :: rest => (match lastWrite loc rest with
      | some w => some w
      | none => if l = loc then some v else none)
  | .alloc _ _ :: rest => lastWrite loc rest

theorem spec_length_mono (cs : List Val) (op : Op) : cs.length ≤ (specStep cs op).length := by
  cases op with
  | alloc ty v => simp [specStep]
  | write loc v => simp only [specStep]; split <;> simp

theorem spec_run_length_mono (ops : List Op) (cs : List Val) : cs.length ≤ (ops.foldl specStep cs).length := by
  induction ops generalizing cs with
  | nil => exact Nat.le_refl _
  | cons op ops ih => exact Nat.le_trans (spec_length_mono cs op) (ih _)

/-- a cell that exists keeps its content under a history without a write to it, and holds the last value written
    to it otherwise - whichever copies of the cell value the writes went through -/
theorem spec_read (ops : List Op) (cs : List Val) (loc : Nat) (h : loc < cs.length) :
    (ops.foldl specStep cs)[loc]? = (match lastWrite loc ops with
      | some v => some v
      | none => cs[loc]?) := by
  induction ops generalizing cs with
  | nil => rfl
  | cons op ops ih =>
    simp only [List.foldl_cons]
    have hl : loc < (specStep cs op).length := Nat.lt_of_lt_of_le h (spec_length_mono cs op)
    rw [ih _ hl]
    cases op with
    | alloc ty v =>
      simp only [lastWrite, specStep]
      cases lastWrite loc ops with
      | some w => rfl
      | none => exact List.getElem?_append_left h
    | write l v =>
      simp only [lastWrite, specStep]
      cases lastWrite loc ops with
      | some w => rfl
      | none =>
        by_cases he : l = loc
        · subst he; simp [h]
        · simp only [he, ↓reduceIte]
          split
          · exact List.getElem?_set_ne he
          · rfl

/-- reading through any copy of a cell after any history: the last value written to its location through any copy,
    or what it held before -/
theorem read_last_write (ops : List Op) (σ : St) (loc : Nat) (h : loc < σ.cells.size) :
    readCell loc (ops.foldl implStep σ) =
      (match lastWrite loc ops with
        | some v => (.ok v, ops.foldl implStep σ)
        | none => (match σ.cells[loc]? with
            | some v => (.ok v, ops.foldl implStep σ)
            | none => (.error (.wrong "dangling cell"), ops.foldl implStep σ))) := by
  have hs := spec_read ops σ.cells.toList loc (Array.length_toList ▸ h)
  have hget : (ops.foldl implStep σ).cells[loc]? = (ops.foldl specStep σ.cells.toList)[loc]? := by
    rw [← run_refines, Array.getElem?_toList]
  simp only [readCell, hget, hs]
  cases lastWrite loc ops with
  | some v => rfl
  | none =>
    simp only [Array.getElem?_toList]
    cases σ.cells[loc]? <;> rfl

/-- a history of writes only never changes the number of cells -/
theorem run_size (ops : List Op) (σ : St) (hw : ∀ op ∈ ops, ∃ l v, op = .write l v) :
    (ops.foldl implStep σ).cells.size = σ.cells.size := by
  induction ops generalizing σ with
  | nil => rfl
  | cons op ops ih =>
    simp only [List.foldl_cons]
    rw [ih _ (fun o ho => hw o (List.mem_cons_of_mem _ ho))]
    obtain ⟨l, v, rfl⟩ := hw op (List.mem_cons_self ..)
    simp only [implStep, writeCell]
    split <;> simp

/-- `mut` never hands out a location that exists: the new cell's location is the old size, whatever happened before -/
theorem alloc_fresh (ops : List Op) (σ : St) (ty : Ty) (v : Val) :
    (newCell ty v (ops.foldl implStep σ)).1 = .ok (.cell (ops.foldl implStep σ).cells.size ty) ∧
    σ.cells.size ≤ (ops.foldl implStep σ).cells.size := by
  refine ⟨rfl, ?_⟩
  have := spec_run_length_mono ops σ.cells.toList
  rw [← run_refines] at this
  simpa using this

/-! non-vacuity: two aliases of cell 0 and a second cell -/
example : readCell 0 ([Op.write 0 (.int 5#64), .alloc .int (.int 7#64), .write 1 (.int 9#64), .write 0 (.int 6#64)].foldl implStep
    { cells := #[.int 1#64], nextId := 0 }) =
    (.ok (.int 6#64), [Op.write 0 (.int 5#64), .alloc .int (.int 7#64), .write 1 (.int 9#64), .write 0 (.int 6#64)].foldl implStep
    { cells := #[.int 1#64], nextId := 0 }) := by
  rw [read_last_write _ _ 0 (by decide)]; rfl

end Ssl.C13
