import SslModel.Thm.C07
/-!
# C07 — sequences of any length: left to right, each exactly once, nothing after a failure

`Thm/C07.lean` gives the one-step equations (first element, then the rest).  Here they are lifted to lists of ANY
length: `ListRun` threads the store through the elements in order - element `k` is evaluated in the store left by
element `k-1`, once - and `evalList` IS that run (`evalList_run`); if element `k` fails, the result is that failure in the
store it left, and no later element is evaluated (`evalList_stops`: the elements after the failing one do not occur in
the statement at all).  The same for struct fields (`evalFields_run`) and statement lists (`evalSeq_run`: each statement
once, in order, the environment growing as it goes, the value of the last).  Arrays, tuples, call arguments, struct
literals and blocks are these lists (`array_elements_in_order`, `tuple_elements_in_order`,
`call_function_then_arguments` in `Thm/C07.lean`).
-/
namespace Ssl.C07
open Ssl Ssl.Spec

/-- the elements evaluated one after the other: `eᵢ` at fuel `f - i`, in the store left by `eᵢ₋₁` -/
inductive ListRun (env : Env) : Nat → List Expr → St → List Val → St → Prop where
  | nil {f : Nat} {σ : St} : ListRun env (f + 1) [] σ [] σ
  | cons {f : Nat} {e : Expr} {es : List Expr} {σ σ1 σ' : St} {v : Val} {vs : List Val} :
      eval f env e σ = (.ok v, σ1) → ListRun env f es σ1 vs σ' → ListRun env (f + 1) (e :: es) σ (v :: vs) σ'

theorem evalList_run (env : Env) (F : Nat) (es : List Expr) (σ σ' : St) (vs : List Val)
    (h : ListRun env F es σ vs σ') : evalList F env es σ = (.ok vs, σ') := by
  induction h with
  | nil => rfl
  | cons he _ ih => rw [evalList_cons, bind_ok he, bind_ok ih]; rfl

/-- the converse: a list that evaluates has evaluated as the run says (so the run is not one possible order, it is THE
    order) -/
theorem run_of_evalList (env : Env) : ∀ (F : Nat) (es : List Expr) (σ σ' : St) (vs : List Val),
    evalList F env es σ = (.ok vs, σ') → ListRun env F es σ vs σ' := by
  intro F
  induction F with
  | zero => intro es σ σ' vs h; cases h
  | succ f ih =>
    intro es σ σ' vs h
    cases es with
    | nil => rw [evalList_nil] at h; cases h; exact .nil
    | cons e es =>
      rw [evalList_cons] at h
      obtain ⟨v, σ1, he, h⟩ := bind_eq_ok h
      obtain ⟨ws, σ2, hl, h⟩ := bind_eq_ok h
      cases h
      exact .cons he (ih _ _ _ _ hl)

/-- a prefix evaluated normally; the last index is the fuel left for what follows -/
inductive PreRun (env : Env) : Nat → List Expr → St → St → Nat → Prop where
  | nil {f : Nat} {σ : St} : PreRun env f [] σ σ f
  | cons {f f' : Nat} {e : Expr} {es : List Expr} {σ σ1 σ' : St} {v : Val} :
      eval f env e σ = (.ok v, σ1) → PreRun env f es σ1 σ' f' → PreRun env (f + 1) (e :: es) σ σ' f'

/-- a failure (error or control signal) of the element after `pre`: the list fails with it, in the store the failing
    element left; `post` is arbitrary - nothing of it is evaluated -/
theorem evalList_stops (env : Env) (F f' : Nat) (pre : List Expr) (e : Expr) (post : List Expr) (σ σ1 σ2 : St) (s : Sig)
    (hpre : PreRun env F pre σ σ1 (f' + 1)) (he : eval f' env e σ1 = (.error s, σ2)) :
    evalList F env (pre ++ e :: post) σ = (.error s, σ2) := by
  generalize hk : f' + 1 = k at hpre
  induction hpre with
  | nil => subst hk; rw [List.nil_append, evalList_cons, bind_error he]
  | cons h0 _ ih => rw [List.cons_append, evalList_cons, bind_ok h0, bind_error (ih he hk)]

inductive FieldRun (env : Env) : Nat → List (String × Expr) → St → List (String × Val) → St → Prop where
  | nil {f : Nat} {σ : St} : FieldRun env (f + 1) [] σ [] σ
  | cons {f : Nat} {k : String} {e : Expr} {es : List (String × Expr)} {σ σ1 σ' : St} {v : Val} {vs : List (String × Val)} :
      eval f env e σ = (.ok v, σ1) → FieldRun env f es σ1 vs σ' →
      FieldRun env (f + 1) ((k, e) :: es) σ ((k, v) :: vs) σ'

theorem evalFields_run (env : Env) (F : Nat) (es : List (String × Expr)) (σ σ' : St) (vs : List (String × Val))
    (h : FieldRun env F es σ vs σ') : evalFields F env es σ = (.ok vs, σ') := by
  induction h with
  | nil => rfl
  | cons he _ ih => rw [struct_fields_in_order, bind_ok he, bind_ok ih]; rfl

/-- statements one after the other, each once, the environment growing; the value is the last statement's -/
inductive SeqRun : Nat → Env → List Expr → St → Val → Env → St → Prop where
  | last {f : Nat} {env env' : Env} {s : Expr} {σ σ' : St} {v : Val} :
      evalStmt f env s σ = (.ok (v, env'), σ') → SeqRun (f + 1) env [s] σ v env' σ'
  | cons {f : Nat} {env env1 env' : Env} {s s2 : Expr} {rest : List Expr} {σ σ1 σ' : St} {v0 v : Val} :
      evalStmt f env s σ = (.ok (v0, env1), σ1) → SeqRun f env1 (s2 :: rest) σ1 v env' σ' →
      SeqRun (f + 1) env (s :: s2 :: rest) σ v env' σ'

theorem evalSeq_run (F : Nat) (env env' : Env) (ss : List Expr) (σ σ' : St) (v : Val)
    (h : SeqRun F env ss σ v env' σ') : evalSeq F env ss σ = (.ok (v, env'), σ') := by
  induction h with
  | last hs => rw [evalSeq_last, hs]
  | cons hs _ ih => rw [evalSeq_cons, bind_ok hs]; exact ih

example : ListRun [[]] 3 [.litInt 1, .litBool true] {} [.int (BitVec.ofInt 64 1), .bool true] {} :=
  .cons (by simp [eval]; rfl) (.cons (by simp [eval]; rfl) .nil)

end Ssl.C07
