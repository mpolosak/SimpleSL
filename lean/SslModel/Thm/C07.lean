import SslModel.Thm.C06
/-!
# C07 — evaluation order: left to right, exactly once, short-circuit

In the reference semantics `Spec` every effect (cell write, allocation) is a change of the store
`σ : St` threaded through the state monad `M`; "evaluated before" is "its store transformation is
applied first", "exactly once" is "its transformation occurs once in the composition", and "not
evaluated" is "the store is returned unchanged".  The theorems below spell the composition out for
every construct the property names, with the store explicit where short-circuiting matters.
The implementation is tied to `Spec` by the marker-log programs of tools/props/c07.py.
-/
namespace Ssl.C07
open Ssl Ssl.Spec

/-- binary operators: left operand, then right operand, each once, then the operation; if the left
    operand fails the right one is not evaluated -/
theorem bin_left_then_right (f : Nat) (env : Env) (op : BinOp) (a b : Expr) (σ : St)
    (h : isIterOp op = false) :
    eval (f + 1) env (.bin op a b) σ =
      (match eval f env a σ with
       | (.error e, σ1) => (.error e, σ1)
       | (.ok x, σ1) =>
         match eval f env b σ1 with
         | (.error e, σ2) => (.error e, σ2)
         | (.ok y, σ2) => (binScalar op x y, σ2)) := by
  rw [eval_bin_scalar f env op a b h]
  simp only [bindM_def, liftE]
  cases eval f env a σ with
  | mk r σ1 =>
    cases r <;> simp only [] <;> (try rfl)
    cases eval f env b σ1 with
    | mk r2 σ2 => cases r2 <;> rfl

/-- `&&`: the right operand is evaluated only when the left one is `true` -/
theorem and_short_circuit (f : Nat) (env : Env) (a b : Expr) (σ σ1 : St)
    (h : eval f env a σ = (.ok (.bool false), σ1)) :
    eval (f + 1) env (.and a b) σ = (.ok (.bool false), σ1) := by
  rw [eval_and, bind_ok h]; rfl

theorem and_evaluates_right (f : Nat) (env : Env) (a b : Expr) (σ σ1 : St)
    (h : eval f env a σ = (.ok (.bool true), σ1)) :
    eval (f + 1) env (.and a b) σ = eval f env b σ1 := by
  rw [eval_and, bind_ok h]; rfl

/-- `||`: the right operand is evaluated only when the left one is `false` -/
theorem or_short_circuit (f : Nat) (env : Env) (a b : Expr) (σ σ1 : St)
    (h : eval f env a σ = (.ok (.bool true), σ1)) :
    eval (f + 1) env (.or a b) σ = (.ok (.bool true), σ1) := by
  rw [eval_or, bind_ok h]; rfl

theorem or_evaluates_right (f : Nat) (env : Env) (a b : Expr) (σ σ1 : St)
    (h : eval f env a σ = (.ok (.bool false), σ1)) :
    eval (f + 1) env (.or a b) σ = eval f env b σ1 := by
  rw [eval_or, bind_ok h]; rfl

/-- expression lists (array / tuple elements, call arguments): first element, then the rest -/
theorem list_left_to_right (f : Nat) (env : Env) (e : Expr) (es : List Expr) :
    evalList (f + 1) env (e :: es) = (do
      let v ← eval f env e
      let vs ← evalList f env es
      pure (v :: vs)) :=
  evalList_cons f env e es

theorem struct_fields_in_order (f : Nat) (env : Env) (k : String) (e : Expr)
    (es : List (String × Expr)) :
    evalFields (f + 1) env ((k, e) :: es) = (do
      let v ← eval f env e
      let vs ← evalFields f env es
      pure ((k, v) :: vs)) :=
  evalFields_cons f env k e es

/-- a call evaluates the function, then the arguments left to right, then calls -/
theorem call_function_then_arguments (f : Nat) (env : Env) (g : Expr) (args : List Expr) :
    eval (f + 1) env (.call g args) = (do
      let fv ← eval f env g
      let vs ← evalList f env args
      callFn f fv vs) :=
  eval_call f env g args

theorem array_elements_in_order (f : Nat) (env : Env) (es : List Expr) :
    eval (f + 1) env (.array es) = (do
      let vs ← evalList f env es
      pure (Val.mkArray vs)) := by
  simp only [eval]

theorem tuple_elements_in_order (f : Nat) (env : Env) (es : List Expr) :
    eval (f + 1) env (.tuple es) = (do
      let vs ← evalList f env es
      pure (.tup vs)) :=
  eval_tuple f env es

theorem repeat_value_then_length (f : Nat) (env : Env) (v n : Expr) :
    eval (f + 1) env (.arrayRepeat v n) = (do
      let v ← eval f env v
      let n ← eval f env n
      match n with
      | .int n =>
        if n.toInt < 0 then throwS (.err .NegativeLength)
        else pure (.arr v.asType (List.replicate n.toInt.toNat v))
      | _ => wrong "array length is not an int") := by
  simp only [eval]; rfl

/-- slicing: the sequence, then start, stop, step -/
theorem slice_operand_then_bounds (f : Nat) (env : Env) (a : Expr) (s e st : Option Expr) :
    eval (f + 1) env (.slice a s e st) = (do
      let x ← eval f env a
      let s ← evalOpt f env s
      let e ← evalOpt f env e
      let st ← evalOpt f env st
      liftE (sliceVal x s e st)) := by
  simp only [eval]

theorem index_operand_then_index (f : Nat) (env : Env) (a i : Expr) :
    eval (f + 1) env (.at a i) = (do
      let x ← eval f env a
      let y ← eval f env i
      liftE (atVal x y)) :=
  eval_at f env a i

/-- assignment: the target, then the value, then (for `op=`) read – compute – write -/
theorem assign_target_then_value (f : Nat) (env : Env) (op : AssignOp) (t v : Expr) :
    eval (f + 1) env (.assign op t v) = (do
      let c ← eval f env t
      let v ← eval f env v
      match c with
      | .cell loc _ =>
        match assignBase op with
        | none => do writeCell loc v; pure v
        | some bop => do
          let cur ← readCell loc
          let r ← liftE (binScalar bop cur v)
          writeCell loc r
          pure r
      | _ => wrong "assignment to a non-cell") :=
  eval_assign f env op t v

theorem reduce_iterator_initial_function (f : Nat) (env : Env) (it init g : Expr) :
    eval (f + 1) env (.reduce it init g) = (do
      let it ← eval f env it
      let init ← eval f env init
      let g ← eval f env g
      reduceGo f it init (.inr g)) := by
  simp only [eval]

/-- only the chosen branch of `if` is evaluated -/
theorem if_true_branch_only (f : Nat) (env : Env) (c t : Expr) (e : Option Expr) (σ σ1 : St)
    (h : eval f env c σ = (.ok (.bool true), σ1)) :
    eval (f + 1) env (.ifElse c t e) σ = eval f env t σ1 := by
  rw [eval_ifElse, bind_ok h]; rfl

theorem if_false_branch_only (f : Nat) (env : Env) (c t e : Expr) (σ σ1 : St)
    (h : eval f env c σ = (.ok (.bool false), σ1)) :
    eval (f + 1) env (.ifElse c t (some e)) σ = eval f env e σ1 := by
  rw [eval_ifElse, bind_ok h]; rfl

theorem if_false_no_else (f : Nat) (env : Env) (c t : Expr) (σ σ1 : St)
    (h : eval f env c σ = (.ok (.bool false), σ1)) :
    eval (f + 1) env (.ifElse c t none) σ = (.ok .unit, σ1) := by
  rw [eval_ifElse, bind_ok h]; rfl

/-- match: the scrutinee once, then the arms top to bottom -/
theorem match_scrutinee_once (f : Nat) (env : Env) (e : Expr) (arms : List Arm) :
    eval (f + 1) env (.matchE e arms) = (do
      let v ← eval f env e
      evalArms f env v arms) := by
  simp only [eval]

/-- value candidates are evaluated left to right and evaluation stops at the first equal one -/
theorem candidates_until_first_hit (f : Nat) (env : Env) (v : Val) (c : Expr) (cs : List Expr) :
    candGo (f + 1) env v (c :: cs) = (do
      let w ← eval f env c
      if veq w v then pure true else candGo f env v cs) :=
  candGo_cons f env v c cs

theorem value_arm_then_next_arm (f : Nat) (env : Env) (v : Val) (cands : List Expr) (body : Expr)
    (rest : List Arm) :
    evalArms (f + 1) env v (.val cands body :: rest) = (do
      let hit ← candGo f env v cands
      if hit then eval f env body else evalArms f env v rest) :=
  evalArms_val f env v cands body rest

/-- an arm that is not selected does not evaluate its body -/
theorem type_arm_skipped (f : Nat) (env : Env) (v : Val) (x : String) (t : Ty) (body : Expr)
    (rest : List Arm) (h : Ty.sub v.asType t = false) :
    evalArms (f + 1) env v (.ty x t body :: rest) = evalArms f env v rest := by
  rw [C06.type_arm_binds_only_in_body, h]; rfl

end Ssl.C07
