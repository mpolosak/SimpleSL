import SslModel.Thm.C11Iter
/-!
# C11 — pipelines of any length over `a~`

The statement of C11 quantifies over "all operator pipelines"; this file proves it for pipelines of ANY length built
from `@`, `?` and `? T` over an array iterator, with callbacks that compute given functions without touching the store
(callbacks with effects are covered one step at a time by `Thm/C11Pipe`).  The device is an invariant that every stage
preserves: `LL it f xs σ` - "called repeatedly from `σ`, `it` returns `(true, x)` for the elements of `xs` in order and
then an end marker" (`Thm/C11Iter`).  `a~` is list-like with `a`; a stage over a list-like iterator is list-like with
`map h` / `filter q` / `filter (type test)` of the list; induction over the list of stages gives that the built iterator
`Pulls` exactly `specₙ (… (spec₁ a))`, so every consumer theorem of `Thm/C11.lean` applies.  The whole expressions
`e~ @ g $]`, `e~ ? p $]`, `e~ ? T $]`, through the creation code of `~` and of the operator, are put together from
`Evals` - "evaluates to `v` at every fuel from some `f0` on" - which passes under each constructor by the creation
theorems of `Thm/C11.lean`.
-/
namespace Ssl.C11
open Ssl Ssl.Spec

/-- `@ g` maps a list-like iterator to a list-like iterator -/
theorem map_LL (id : Nat) (r : Ty) (it g dflt : Val) (h : Val → Val) (f : Nat) (hg : PureFn g h f) :
    ∀ {xs : List Val} {σ : St}, LL it f xs σ → LL (mapped id r it g dflt) (f + 19) (xs.map h) σ :=
  fun hl => let ⟨_, hr⟩ := mapRun_of_ll hg hl; LL_iff_calls.mpr ⟨_, MapRun.calls id r dflt hr⟩

/-- `? p` maps a list-like iterator to a list-like iterator -/
theorem filter_LL (id : Nat) (r : Ty) (it p : Val) (q : Val → Bool) (f : Nat) (hq : PurePred p q f)
    {xs : List Val} {σ : St} (h : LL it f xs σ) : LL (filtered id r it p) (f + 25 + xs.length) (xs.filter q) σ :=
  let ⟨_, hr⟩ := filterRun_of_ll hq h; LL_iff_calls.mpr ⟨_, FilterRun.calls id r hr⟩

theorem tfilter_LL (id : Nat) (it dflt : Val) (t : Ty) (f : Nat) {xs : List Val} {σ : St} (h : LL it f xs σ) :
    LL (typeFiltered id t it dflt) (f + 25 + xs.length) (xs.filter (fun x => x.asType.sub t)) σ :=
  let ⟨_, hr⟩ := tfRun_of_ll t h; LL_iff_calls.mpr ⟨_, TFRun.calls id dflt hr⟩

/-! ### one stage over `a~` -/

/-- `a~ @ g $]` is `map g a` -/
theorem iter_map_collect (id id2 loc : Nat) (t ty r : Ty) (es : List Val) (dflt dflt2 g : Val) (h : Val → Val) (f0 : Nat)
    (hn : (es.length : Int) < 2 ^ 63) (hg : ∀ k x σ, f0 ≤ k → callFn k g [x] σ = (.ok (h x), σ))
    (σ : St) (hc : σ.cells[loc]? = some (.int (BitVec.ofInt 64 (-1)))) :
    ∃ σ', collectGo (f0 + 20 + 21 + (es.map h).length) (mapped id2 r (arrIter id loc t ty es dflt) g dflt2) [] σ =
      (.ok (es.map h), σ') :=
  (map_LL id2 r _ g dflt2 h (f0 + 20) (PureFn.mono hg (by omega))
    (iter_LL_start id loc t ty es dflt f0 hn σ hc)).collect

/-- `a~ ? p $]` is `filter p a` -/
theorem iter_filter_collect (id id2 loc : Nat) (t ty r : Ty) (es : List Val) (dflt p : Val) (q : Val → Bool) (f0 : Nat)
    (hn : (es.length : Int) < 2 ^ 63) (hq : ∀ k x σ, f0 ≤ k → callFn k p [x] σ = (.ok (.bool (q x)), σ))
    (σ : St) (hc : σ.cells[loc]? = some (.int (BitVec.ofInt 64 (-1)))) :
    ∃ σ', collectGo (f0 + 20 + 27 + es.length + (es.filter q).length) (filtered id2 r (arrIter id loc t ty es dflt) p) [] σ =
      (.ok (es.filter q), σ') := by
  have := (filter_LL id2 r _ p q (f0 + 20) (PurePred.mono hq (by omega))
    (iter_LL_start id loc t ty es dflt f0 hn σ hc)).collect
  rwa [show f0 + 20 + 25 + es.length + 2 + (es.filter q).length = f0 + 20 + 27 + es.length + (es.filter q).length by
    omega] at this

/-! ### any number of stages -/

/-- one stage of a pipeline, with the list function it is claimed to compute -/
inductive Stage where
  | map (id : Nat) (r : Ty) (g dflt : Val) (h : Val → Val)
  | filter (id : Nat) (r : Ty) (p : Val) (q : Val → Bool)
  | tfilter (id : Nat) (t : Ty) (dflt : Val)

/-- the iterator value the implementation builds for `it <stage>` -/
def Stage.apply : Stage → Val → Val
  | .map id r g dflt _, it => mapped id r it g dflt
  | .filter id r p _, it => filtered id r it p
  | .tfilter id t dflt, it => typeFiltered id t it dflt

/-- the documented list semantics of the stage -/
def Stage.spec : Stage → List Val → List Val
  | .map _ _ _ _ h, xs => xs.map h
  | .filter _ _ _ q, xs => xs.filter q
  | .tfilter _ t _, xs => xs.filter (fun x => x.asType.sub t)

/-- the callbacks of the stage compute what the stage claims (from fuel `f0` on, without touching the store) -/
def Stage.ok (f0 : Nat) : Stage → Prop
  | .map _ _ g _ h => PureFn g h f0
  | .filter _ _ p q => PurePred p q f0
  | .tfilter _ _ _ => True

theorem stage_LL (s : Stage) (f0 f : Nat) (hf : f0 ≤ f) (hok : s.ok f0) (it : Val) (xs : List Val) (σ : St)
    (h : LL it f xs σ) : ∃ F, f ≤ F ∧ LL (s.apply it) F (s.spec xs) σ := by
  cases s with
  | map id r g dflt hh =>
    exact ⟨f + 19, by omega, map_LL id r it g dflt hh f (PureFn.mono hok hf) h⟩
  | filter id r p q =>
    exact ⟨f + 25 + xs.length, by omega, filter_LL id r it p q f (PurePred.mono hok hf) h⟩
  | tfilter id t dflt =>
    exact ⟨f + 25 + xs.length, by omega, tfilter_LL id it dflt t f h⟩

/-- a pipeline of any length over a list-like source is list-like with the composed list function -/
theorem pipeline_LL (f0 : Nat) : ∀ (stages : List Stage) (it : Val) (f : Nat) (xs : List Val) (σ : St),
    f0 ≤ f → (∀ s ∈ stages, s.ok f0) → LL it f xs σ →
    ∃ F, LL (stages.foldl (fun i s => s.apply i) it) F (stages.foldl (fun l s => s.spec l) xs) σ
  | [], it, f, xs, σ, _, _, h => ⟨f, h⟩
  | s :: rest, it, f, xs, σ, hf, hok, h => by
    obtain ⟨F, hF, h1⟩ := stage_LL s f0 f hf (hok s (List.mem_cons_self ..)) it xs σ h
    exact pipeline_LL f0 rest (s.apply it) F (s.spec xs) σ (by omega) (fun s' hs' => hok s' (List.mem_cons_of_mem _ hs')) h1

/-- for any consumer: the pipeline `Pulls` exactly the composed list -/
theorem pipeline_pulls (id loc : Nat) (t ty : Ty) (es : List Val) (dflt : Val) (f0 : Nat) (stages : List Stage)
    (hn : (es.length : Int) < 2 ^ 63) (hok : ∀ s ∈ stages, s.ok f0)
    (σ : St) (hc : σ.cells[loc]? = some (.int (BitVec.ofInt 64 (-1)))) :
    ∃ F σ', Pulls (stages.foldl (fun i s => s.apply i) (arrIter id loc t ty es dflt)) F σ
      (stages.foldl (fun l s => s.spec l) es) σ' := by
  obtain ⟨F, hl⟩ := pipeline_LL f0 stages _ (f0 + 20) es σ (by omega) hok (iter_LL_start id loc t ty es dflt f0 hn σ hc)
  obtain ⟨σ', hp⟩ := hl.pulls
  exact ⟨_, σ', hp⟩

/-- **pipelines of any length over `a~`**: `a~ <stage₁> … <stageₙ> $]` is the array of
    `specₙ (… (spec₁ a))`, for every array shorter than 2^63, every number and order of `@`, `?`, `? T` stages, and
    callbacks that compute the functions the stages name -/
theorem pipeline_collect (id loc : Nat) (t ty : Ty) (es : List Val) (dflt : Val) (f0 : Nat) (stages : List Stage)
    (hn : (es.length : Int) < 2 ^ 63) (hok : ∀ s ∈ stages, s.ok f0)
    (σ : St) (hc : σ.cells[loc]? = some (.int (BitVec.ofInt 64 (-1)))) :
    ∃ F σ', collectGo F (stages.foldl (fun i s => s.apply i) (arrIter id loc t ty es dflt)) [] σ =
      (.ok (stages.foldl (fun l s => s.spec l) es), σ') := by
  obtain ⟨F, σ', hp⟩ := pipeline_pulls id loc t ty es dflt f0 stages hn hok σ hc
  exact ⟨F, σ', collectGo_nil hp⟩

/-- a built-in reducer (`$+ $* $& $|`) over a pipeline is the fold of its operator over the composed list -/
theorem pipeline_reduce (id loc : Nat) (t ty : Ty) (es : List Val) (dflt : Val) (f0 : Nat) (stages : List Stage)
    (hn : (es.length : Int) < 2 ^ 63) (hok : ∀ s ∈ stages, s.ok f0)
    (σ : St) (hc : σ.cells[loc]? = some (.int (BitVec.ofInt 64 (-1))))
    (op : BinOp) (acc r : Val) (hf : foldOp op acc (stages.foldl (fun l s => s.spec l) es) = .ok r) :
    ∃ F σ', reduceGo F (stages.foldl (fun i s => s.apply i) (arrIter id loc t ty es dflt)) acc (.inl op) σ = (.ok r, σ') := by
  obtain ⟨F, σ', hp⟩ := pipeline_pulls id loc t ty es dflt f0 stages hn hok σ hc
  exact ⟨F, σ', reduceGo_builtin _ op F σ σ' _ acc r hp hf⟩

/-- `$ init g` over a pipeline, for a callback computing `h2`: the left fold of `h2` over the composed list -/
theorem pipeline_fold (id loc : Nat) (t ty : Ty) (es : List Val) (dflt : Val) (f0 : Nat) (stages : List Stage)
    (hn : (es.length : Int) < 2 ^ 63) (hok : ∀ s ∈ stages, s.ok f0)
    (σ : St) (hc : σ.cells[loc]? = some (.int (BitVec.ofInt 64 (-1))))
    (g : Val) (h2 : Val → Val → Val) (hg : ∀ k acc x σ, f0 ≤ k → callFn k g [acc, x] σ = (.ok (h2 acc x), σ)) (init : Val) :
    ∃ F σ', reduceGo F (stages.foldl (fun i s => s.apply i) (arrIter id loc t ty es dflt)) init (.inr g) σ =
      (.ok ((stages.foldl (fun l s => s.spec l) es).foldl h2 init), σ') := by
  obtain ⟨F, σ', hp⟩ := pipeline_pulls id loc t ty es dflt f0 stages hn hok σ hc
  -- more fuel for the consumer than the callbacks need
  have hp' : Pulls _ (F + f0 + (stages.foldl (fun l s => s.spec l) es).length + 1) σ _ σ' := Pulls.lift hp (by omega)
  exact ⟨_, σ', reduce_fn_spec _ g h2 f0 hg _ σ σ' _ init hp' (by omega)⟩

/-- `a~ <stages> \ p`: the ordered split of the composed list -/
theorem pipeline_partition (id loc : Nat) (t ty : Ty) (es : List Val) (dflt : Val) (f0 : Nat) (stages : List Stage)
    (hn : (es.length : Int) < 2 ^ 63) (hok : ∀ s ∈ stages, s.ok f0)
    (σ : St) (hc : σ.cells[loc]? = some (.int (BitVec.ofInt 64 (-1))))
    (p : Val) (q : Val → Bool) (hq : PurePred p q f0) :
    ∃ F σ', partitionGo F (stages.foldl (fun i s => s.apply i) (arrIter id loc t ty es dflt)) p [] [] σ =
      (.ok ((stages.foldl (fun l s => s.spec l) es).filter q,
            (stages.foldl (fun l s => s.spec l) es).filter (fun x => !q x)), σ') := by
  obtain ⟨F, σ', hp⟩ := pipeline_pulls id loc t ty es dflt f0 stages hn hok σ hc
  have hp' : Pulls _ (F + f0 + (stages.foldl (fun l s => s.spec l) es).length + 1) σ _ σ' := Pulls.lift hp (by omega)
  exact ⟨_, σ', by simpa using partition_spec _ p q f0 hq _ σ σ' _ [] [] hp' (by omega)⟩

/-! ### `$&&` / `$||` over a list-like iterator -/

/-- a list-like iterator of bools under `$&&` (`u = true`) / `$||` (`u = false`) is pulled up to the first element that
    differs from `u`, which decides; the elements after it are not pulled -/
theorem LL.pullsUntil {it : Val} {f : Nat} (u : Bool) : ∀ {bs : List Bool} {σ : St}, LL it f (bs.map Val.bool) σ →
    ∃ σ', PullsUntil it u (f + 2 + bs.length) σ (if u then bs.all id else bs.any id) σ'
  | [], _, ⟨_, σ', h⟩ => ⟨σ', by cases u <;> exact .exhausted (pull_of_call_none h)⟩
  | b :: bs, _, ⟨σ1, h, t⟩ => by
    have hp := pull_lift (f + 2 + bs.length) (pull_of_call h) (by omega)
    obtain ⟨σ', ih⟩ := LL.pullsUntil u t
    cases b <;> cases u
    · exact ⟨σ', .skip hp ih⟩
    · exact ⟨σ1, .decided hp⟩
    · exact ⟨σ1, .decided hp⟩
    · exact ⟨σ', .skip hp ih⟩

/-- `$&&` over a list-like iterator of bools is `all`, `$||` is `any` -/
theorem LL.all {it : Val} {f : Nat} : ∀ {bs : List Bool} {σ : St}, LL it f (bs.map Val.bool) σ →
    ∃ σ', boolGo (f + 2 + bs.length) it true σ = (.ok (.bool (bs.all id)), σ') :=
  fun h => let ⟨σ', hp⟩ := LL.pullsUntil true h; ⟨σ', boolGo_spec it true _ _ σ' _ hp⟩

theorem LL.any {it : Val} {f : Nat} : ∀ {bs : List Bool} {σ : St}, LL it f (bs.map Val.bool) σ →
    ∃ σ', boolGo (f + 2 + bs.length) it false σ = (.ok (.bool (bs.any id)), σ') :=
  fun h => let ⟨σ', hp⟩ := LL.pullsUntil false h; ⟨σ', boolGo_spec it false _ _ σ' _ hp⟩

/-! ### whole expressions: `e~ @ g $]`, `e~ ? p $]`, `e~ ? T $]` -/

/-- `e` evaluates to `v` (store `σ ↦ σ'`) at every fuel from some `f0` on (`Spec.Eventually`, `Lemmas/Mono`): the form in
    which the evaluation of a sub-expression can be used under any number of further constructors (`Eventually.step`,
    `.step2`) -/
abbrev Evals (env : Env) (e : Expr) (σ : St) (v : Val) (σ' : St) : Prop :=
  Eventually (fun f => eval f env e) σ (.ok v, σ')

theorem Evals.of_eval {env : Env} {e : Expr} {σ σ' : St} {v : Val} {f : Nat} (h : eval f env e σ = (.ok v, σ')) :
    Evals env e σ v σ' :=
  Eventually.of_mono (·.eval env e) h

/-- `Eventually.step` and `.step2` for expressions, so that they chain by name -/
theorem Evals.step {env : Env} {e e' : Expr} {σ σ1 σ' : St} {v v' : Val} (h : Evals env e σ v σ1)
    (hs : ∀ f, eval f env e σ = (.ok v, σ1) → eval (f + 1) env e' σ = (.ok v', σ')) : Evals env e' σ v' σ' :=
  Eventually.step h hs

theorem Evals.step2 {env : Env} {a b e' : Expr} {σ σ1 σ2 σ' : St} {va vb v' : Val} (ha : Evals env a σ va σ1)
    (hb : Evals env b σ1 vb σ2)
    (hs : ∀ f, eval f env a σ = (.ok va, σ1) → eval f env b σ1 = (.ok vb, σ2) → eval (f + 1) env e' σ = (.ok v', σ')) :
    Evals env e' σ v' σ' :=
  Eventually.step2 ha hb hs

theorem Evals.var {env : Env} {x : String} {v : Val} (σ : St) (h : env.lookup x = some v) : Evals env (.var x) σ v σ :=
  Eventually.of_succ fun f => by rw [eval_var, h]; rfl

theorem Evals.iter {env : Env} {e : Expr} {σ σ1 : St} {ty : Ty} {es : List Val} (h : Evals env e σ (.arr ty es) σ1) :
    Evals env (.post .iter e) σ (arrIter σ1.nextId σ1.cells.size ty ty es ((ofType ty).getD .unit))
      { cells := σ1.cells.push (.int (BitVec.ofInt 64 (-1))), nextId := σ1.nextId + 1 } :=
  h.step fun f hf => eval_iter f env e σ σ1 ty es hf

theorem Evals.collect {env : Env} {E : Expr} {σ σ1 : St} {it : Val} {f : Nat} {xs : List Val} (h : Evals env E σ it σ1)
    (hl : LL it f xs σ1) : ∃ F σ', eval F env (.post .collect E) σ = (.ok (Val.mkArray xs), σ') := by
  obtain ⟨f0, h0⟩ := h
  obtain ⟨σ', hp⟩ := hl.pulls
  exact ⟨f0 + (f + 2 + xs.length) + 1, σ',
    collect_spec _ env E σ σ1 σ' it xs (h0 _ (by omega)) (Pulls.lift hp (by omega))⟩

/-- **`e~ @ g $]` evaluates to `map g e`** - the whole expression, through the creation code of `~` (fresh cursor cell)
    and of `@` (fresh closure), for every array `e` evaluates to (shorter than 2^63) and every name `gname` bound to a
    function value that computes `h` -/
theorem iter_map_collect_expr (f f0 : Nat) (env : Env) (e : Expr) (gname : String) (g : Val) (h : Val → Val) (r : Ty)
    (σ σ1 : St) (ty : Ty) (es : List Val)
    (he : eval f env e σ = (.ok (.arr ty es), σ1)) (hn : (es.length : Int) < 2 ^ 63)
    (hlook : env.lookup gname = some g) (hr : g.asType.returnType = some r) (hg : PureFn g h f0) :
    ∃ F σ', eval F env (.post .collect (.bin .map (.post .iter e) (.var gname))) σ = (.ok (Val.mkArray (es.map h)), σ') :=
  ((Evals.of_eval he).iter.step2 (Evals.var _ hlook) fun f h1 h2 => map_is_lazy f env _ _ σ _ _ _ g r h1 h2 hr).collect
    (map_LL _ r _ g _ h _ (PureFn.mono hg (by omega)) (iter_LL_start _ _ ty ty es _ f0 hn _ (by simp)))

/-- **`e~ ? p $]` evaluates to `filter p e`** - the whole expression -/
theorem iter_filter_collect_expr (f f0 : Nat) (env : Env) (e : Expr) (pname : String) (p : Val) (q : Val → Bool)
    (σ σ1 : St) (ty : Ty) (es : List Val)
    (he : eval f env e σ = (.ok (.arr ty es), σ1)) (hn : (es.length : Int) < 2 ^ 63)
    (hlook : env.lookup pname = some p) (hq : PurePred p q f0) :
    ∃ F σ', eval F env (.post .collect (.bin .filter (.post .iter e) (.var pname))) σ = (.ok (Val.mkArray (es.filter q)), σ') :=
  ((Evals.of_eval he).iter.step2 (Evals.var _ hlook) fun f h1 h2 =>
      filter_is_lazy f env _ _ σ _ _ _ p (.tup [.bool, ty]) h1 h2 (by simp [arrIter, Val.asType, Ty.returnType, Ty.query])).collect
    (filter_LL _ _ _ p q _ (PurePred.mono hq (by omega)) (iter_LL_start _ _ ty ty es _ f0 hn _ (by simp)))

/-- **`e~ ? T $]` evaluates to the elements of `e` whose run-time type is below `T`** - the whole expression -/
theorem iter_tfilter_collect_expr (f : Nat) (env : Env) (e : Expr) (t : Ty) (σ σ1 : St) (ty : Ty) (es : List Val)
    (he : eval f env e σ = (.ok (.arr ty es), σ1)) (hn : (es.length : Int) < 2 ^ 63) :
    ∃ F σ', eval F env (.post .collect (.tfilter (.post .iter e) t)) σ =
      (.ok (Val.mkArray (es.filter (fun x => x.asType.sub t))), σ') :=
  ((Evals.of_eval he).iter.step fun f hf => type_filter_is_lazy f env _ t σ _ _ hf).collect
    (tfilter_LL _ _ _ t _ (iter_LL_start _ _ ty ty es _ 0 hn _ (by simp)))

/-! non-vacuity: the identity closure is a `PureFn`, so `[.map …]` is an admissible pipeline -/
theorem idFn_pure : PureFn idFn (fun v => v) 5 := by
  intro k x σ hk
  obtain ⟨k', rfl⟩ : ∃ k', k = k' + 5 := ⟨k - 5, by omega⟩
  exact callFn_of_ret (by intro n h; cases h) (by simp only [spec_eq]; rfl)

example : ∀ s ∈ [Stage.map 7 .int idFn (.int 0#64) (fun v => v), Stage.tfilter 8 .int (.int 0#64)], s.ok 5 := by
  intro s hs
  simp only [List.mem_cons, List.mem_nil_iff, or_false] at hs
  rcases hs with rfl | rfl
  · exact idFn_pure
  · trivial

end Ssl.C11
