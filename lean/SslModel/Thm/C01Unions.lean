import SslModel.Thm.C01Level
import SslModel.Lemmas.TyQuery
/-!
# C01 / C02 (stages 5-6) — type queries on union operands

The queries a construct makes of its operand's type (`Type::index_result`, `tuple_element_at`, `mut_element_type`,
`return_type`, `params`, `mut_assign_type`, `flatten_tuple`) when that type is a UNION: the answer of a join-folded query
lies above every member's answer, the answer of a meet-folded one below (`Ty.foldQ_bound` read with `matches` or its
converse); and a good value of a union type is a value of one of its members, whose answer lies below the query's
(`union_member`).
-/
namespace Ssl.CS
open Ssl Ssl.Ty Ssl.Val Ssl.Spec Ssl.Check Ssl.CheckF Ssl.CheckS Ssl.C01
variable {S : STy}

theorem query_join_upper (base : Ty → Option Ty) (hb : ∀ m t, wf m = true → base m = some t → wf t = true)
    (ms : List Ty) (T : Ty) (wl : wfL ms = true) (h : query base joinO (.multi ms) = some T) :
    wf T = true ∧ ∀ m ∈ ms, ∃ t, base m = some t ∧ sub t T = true :=
  foldQ_bound (R := fun a b => sub a b = true) sub_refl sub_trans joinO_upper ms T
    (fun m hm c => hb m c (wfL_mem wl hm)) h

theorem wfL_of_multi {ms : List Ty} (h : wf (.multi ms) = true) : wfL ms = true := (inv_of_wf_multi ms h).2.1

/-- a good value whose tag lies below a union lies below one of its members -/
theorem vt_member {v : Val} {ms : List Ty} (h : VT S (.multi ms) v) : ∃ m ∈ ms, VT S m v := by
  obtain ⟨m, hm, hh⟩ := (sub_multi_right_iff (tag_shape v).1 (tag_shape v).2).mp h.1
  exact ⟨m, hm, hh, h.2⟩

/-- a value of a union type on which a join-folded query answers `T`: it is a value of a member, the member answers,
    and its answer lies below `T` -/
theorem union_member {base : Ty → Option Ty} (hb : ∀ m t, wf m = true → base m = some t → wf t = true)
    {ms : List Ty} {T : Ty} {v : Val} (w : wf (.multi ms) = true) (hq : query base joinO (.multi ms) = some T)
    (hv : VT S (.multi ms) v) :
    ∃ m tm, m ∈ ms ∧ wf m = true ∧ VT S m v ∧ base m = some tm ∧ sub tm T = true := by
  obtain ⟨m, hm, hvm⟩ := vt_member hv
  have wl := wfL_of_multi w
  obtain ⟨tm, hbm, hsub⟩ := (query_join_upper base hb ms T wl hq).2 m hm
  exact ⟨m, tm, hm, wfL_mem wl hm, hvm, hbm, hsub⟩

/-! ### the meet-folded queries: `params()` and `mut_assign_type()` -/

theorem argsOk_refl (as : List Ty) (h : wfL as = true) : argsOk as as = true := by
  rw [argsOk_eq]
  exact matchesL_refl_of as (fun p hp => sub_refl p (wfL_mem h hp))

theorem argsOk_trans (as bs cs : List Ty) (h1 : argsOk as bs = true) (h2 : argsOk bs cs = true) : argsOk as cs = true := by
  rw [argsOk_eq] at h1 h2 ⊢
  exact matchesL_trans as bs cs h1 h2

theorem zipConj_props (as bs : List Ty) (wa : wfL as = true) (wb : wfL bs = true) (hl : as.length = bs.length) :
    wfL (List.zipWith conjoin as bs) = true ∧ argsOk (List.zipWith conjoin as bs) as = true ∧
      argsOk (List.zipWith conjoin as bs) bs = true := by
  rw [argsOk_eq, argsOk_eq, matchesL_iff, matchesL_iff]
  exact zipWith_props (f := conjoin) (r := fun c a => sub c a = true) as bs hl fun a ha b hb =>
    ⟨conjoin_wf a b (wfL_mem wa ha) (wfL_mem wb hb), conjoin_lower a b (wfL_mem wa ha) (wfL_mem wb hb)⟩

theorem params_lower (ms pts : List Ty) (wl : wfL ms = true) (h : params (.multi ms) = some pts) :
    wfL pts = true ∧ ∀ m ∈ ms, ∃ mps mrt, m = .fn mps mrt ∧ argsOk pts mps = true := by
  obtain ⟨wR, hmem⟩ := foldQ_bound (P := fun l => wfL l = true) (R := fun a b => argsOk b a = true) argsOk_refl
    (fun a b c h1 h2 => argsOk_trans c b a h2 h1)
    (fun a c r wa wc h => by
      split at h
      · cases h
      · next hl =>
        cases h
        exact zipConj_props a c wa wc (by simpa using hl))
    ms pts (fun m hm c hc => by
      have wm := wfL_mem wl hm
      cases m <;> cases hc
      simp only [wf, Bool.and_eq_true] at wm
      exact wm.1) h
  refine ⟨wR, fun m hm => ?_⟩
  obtain ⟨c, hc, hR⟩ := hmem m hm
  cases m <;> cases hc
  exact ⟨_, _, rfl, hR⟩

theorem mutAssignType_lower (ms : List Ty) (A : Ty) (wl : wfL ms = true) (h : mutAssignType (.multi ms) = some A) :
    wf A = true ∧ ∀ m ∈ ms, ∃ c, m = .cell c ∧ sub A c = true := by
  rw [mutAssignType_multi] at h
  obtain ⟨wA, _, hmem⟩ := foldlM_bound (R := fun a b => sub b a = true) sub_refl
    (fun a b c h1 h2 => sub_trans c b a h2 h1)
    (fun a c r wa wc h => by
      cases h
      exact ⟨conjoin_wf a c wa wc, conjoin_lower a c wa wc⟩)
    ms .any A (fun m hm c hc => wf_of_cell m c (wfL_mem wl hm) hc) rfl h
  refine ⟨wA, fun m hm => ?_⟩
  obtain ⟨c, hc, hR⟩ := hmem m hm
  cases m <;> cases hc
  exact ⟨_, rfl, hR⟩

/-! ### `flatten_tuple()`: the position-wise JOIN over a union of tuple types of one length -/

theorem flattenTuple_upper (ms ts : List Ty) (wl : wfL ms = true) (h : flattenTuple (.multi ms) = some ts) :
    wfL ts = true ∧ ∀ m ∈ ms, ∃ es, m = .tup es ∧ argsOk es ts = true := by
  obtain ⟨wR, hmem⟩ := foldQ_bound (P := fun l => wfL l = true) (R := fun a b => argsOk a b = true) argsOk_refl
    argsOk_trans
    (fun a c r wa wc h => by
      split at h
      · cases h
      · next hl =>
        cases h
        have := Ty.zipConcat_props a c (by simpa using hl) wa wc
        simpa only [argsOk_eq, matchesParams_eq] using this)
    ms ts (fun m hm c hc => by
      have wm := wfL_mem wl hm
      cases m <;> cases hc
      simpa [wf] using wm) h
  refine ⟨wR, fun m hm => ?_⟩
  obtain ⟨c, hc, hR⟩ := hmem m hm
  cases m <;> cases hc
  exact ⟨_, rfl, hR⟩

/-! ### tuple access, indexing and slicing of a typed operand, at any level -/

theorem tacc_value {l : Lvl} {x : Val} {ts : List Ty} {n : Nat} {t : Ty} (hx : VTX l S (.tup ts) x) (ht : ts[n]? = some t) :
    ∃ vs w, x = .tup vs ∧ vs[n]? = some w ∧ VTX l S t w := by
  obtain ⟨vs, rfl, hl⟩ := vtX_tuple hx
  cases hw : vs[n]? with
  | some w => exact ⟨vs, w, rfl, hw, listOkX_get ts vs hl n w t hw ht⟩
  | none => exact absurd (asTypeL_none vs n hw) (matchesL_some (asTypeL vs) ts n t hl.1 ht)

theorem at_value (l : Lvl) (lp : Bool) (ret : Option Ty) (x : Val) (k : I64) (tc te : Ty) (σ : St) (hst : StoreOkX l S σ)
    (hx : VTX l S tc x) (hk : tc = .arr te ∨ (tc = .str ∧ te = .str)) :
    OutPX l lp ret S (fun S' v => VTX l S' te v) (liftE (atVal x (.int k)) σ) :=
  outPX_liftE hst (inv_atVal (goodX_inv l S) k hx.2 hx.1 hk)

theorem slice_value (l : Lvl) (lp : Bool) (ret : Option Ty) (x : Val) (tc : Ty) (vs ve vp : Option Val) (i1 i2 i3 : Option Int) (σ : St)
    (hst : StoreOkX l S σ) (e1 : optIdx vs = .ok i1) (e2 : optIdx ve = .ok i2) (e3 : optIdx vp = .ok i3)
    (hx : VTX l S tc x) (hk : (∃ e, tc = .arr e) ∨ tc = .str) :
    OutPX l lp ret S (fun S' v => VTX l S' tc v) (liftE (sliceVal x vs ve vp) σ) := by
  obtain ⟨w, hw, h⟩ := inv_sliceVal (goodX_inv l S) vs ve vp i1 i2 i3 e1 e2 e3 hx.2 hx.1 hk
  rw [hw]
  exact outPX_liftE hst h

end Ssl.CS
