import SslModel.Model.TyText
import SslModel.Lemmas.TyLex
import SslModel.Lemmas.TyJoin
import SslModel.Lemmas.Induction
import SslModel.Lemmas.Lists
/-!
# C15 — types survive printing and re-parsing

`TyText.toks` / `TyText.render` model `Display for Type` (on the member / field order given),
`TyText.lex` + `TyText.parseTy` the `type` rules of the grammar and `Type::from(Pair)`.
First where the printer puts parentheses (around unions in function results and in `mut`, nowhere else).  Then the
round trip on tokens (`roundtrip_tokens`): the parser, run on the printed tokens of a well-formed printable type followed
by anything that does not start with `->` or `|`, answers the type and that remainder - by induction on the type, through
the ordered choices of the grammar (function type before `()` before tuple; `(a|b)` is not a standard type) and
`concat`'s rebuilding of unions.  Then the text (`roundtrip_text`): the lexer gives the printed tokens back
(`TyLex.lex_render`) when the struct keys are identifiers.  The text route is also checked on generated types in both
directions between model and implementation (tools/props/c15.py), which is what ties the model to the code.
-/
namespace Ssl.C15
open Ssl Ssl.Ty Ssl.TyText Ssl.TyLex

/-- a union as a function result is parenthesised: `(…)->(a|b)` -/
theorem union_function_result_parenthesised (ps ms : List Ty) :
    toks (.fn ps (.multi ms)) = [.lp] ++ toksSep ps ++ [.rp, .arrow] ++ ([.lp] ++ toks (.multi ms) ++ [.rp]) := by
  simp [toks]

/-- a union as content of `mut` is parenthesised: `mut (a|b)` -/
theorem union_mut_content_parenthesised (ms : List Ty) :
    toks (.cell (.multi ms)) = [.word "mut"] ++ ([.lp] ++ toks (.multi ms) ++ [.rp]) := by
  simp [toks]

/-- unions as array elements, parameters, tuple components and struct fields are printed bare
    (the grammar reads a full `type` there) -/
theorem union_array_element_bare (ms : List Ty) (h : isNeverLike (.multi ms) = false) :
    toks (.arr (.multi ms)) = [.lb] ++ toks (.multi ms) ++ [.rb] := by
  simp [toks, h]

theorem parameters_bare (p : Ty) (r : Ty) (hr : ∀ ms, r ≠ .multi ms) :
    toks (.fn [p] r) = [.lp] ++ toks p ++ [.rp, .arrow] ++ toks r := by
  cases r <;> first | rfl | exact absurd rfl (hr _)

theorem struct_fields_bare (k : String) (t : Ty) :
    toks (.struct [(k, t)]) = [.word "struct", .lc, .word k, .colon] ++ toks t ++ [.rc] := by
  simp [toks, toksFields]

/-- an array of `!` prints as `[]`, and `[]` reads as an array of `!` -/
theorem empty_array_brackets (f : Nat) (rest : List Tok) :
    toks (.arr .never) = [.lb, .rb] ∧ parseStd (f + 1) ([.lb, .rb] ++ rest) = some (.arr .never, rest) := by
  constructor
  · simp [toks, isNeverLike, sub_never]
  · simp [parseStd]

/-- members of a union are separated by `|`, parameters and components by `, ` -/
theorem union_separator (a b : Ty) : toks (.multi [a, b]) = toks a ++ [.bar] ++ toks b := by
  simp [toks, toksBar]

theorem tuple_separator (a b : Ty) : toks (.tup [a, b]) = [.lp] ++ toks a ++ [.comma] ++ toks b ++ [.rp] := by
  simp [toks, toksSep]

theorem render_examples :
    render (toks (.fn [.int, .str] (.multi [.int, .void]))) = "(int, string)->(int|())" ∧
    render (toks (.cell (.multi [.arr .never, .struct [("a", .tup [.int, .bool])]]))) =
      "mut ([]|struct{a: (int, bool)})" := by
  constructor <;> simp [toks, toksSep, toksBar, toksFields, render, Tok.text, isNeverLike, sub_never] <;> decide

mutual
/-- the types whose text the grammar can read back: tuples have two components or more (0- and 1-tuples have no syntax)
    and struct keys are not reserved words -/
def printable : Ty → Bool
  | .fn ps r => printableL ps && printable r
  | .arr e => printable e
  | .tup es => decide (2 ≤ es.length) && printableL es
  | .multi ms => printableL ms
  | .cell e => printable e
  | .struct fs => printableF fs
  | _ => true
def printableL : List Ty → Bool
  | [] => true
  | t :: ts => printable t && printableL ts
def printableF : List (String × Ty) → Bool
  | [] => true
  | (k, t) :: fs => !restricted.contains k && printable t && printableF fs
end

/-- what may follow a printed type for `parseStd` to stop where the printer stopped -/
def NoArrow (rest : List Tok) : Prop := ∀ r, rest ≠ .arrow :: r
def NoBar (rest : List Tok) : Prop := ∀ r, rest ≠ .bar :: r

theorem neverLike_wf (e : Ty) (hw : wf e = true) (h : isNeverLike e = true) : e = .never := by
  unfold isNeverLike at h
  cases e with
  | never => rfl
  | multi ms =>
    obtain ⟨hlen, _, hmo, _⟩ := inv_of_wf_multi ms hw
    match ms, hlen with
    | m :: _, _ =>
      have hm := membersOk_mem hmo (List.mem_cons_self (a := m))
      rw [sub_multi_left, allMatch_eq, List.all_cons, sub_never_right m hm.1 hm.2.1] at h
      cases h
  | _ => rw [sub_never_right _ rfl rfl] at h; cases h

theorem dedup_fold : ∀ (rest acc : List (String × Ty)), ((acc ++ rest).map (·.1)).Nodup →
    rest.foldl (fun acc (kt : String × Ty) => (acc.filter (fun p => p.1 != kt.1)) ++ [(kt.1, kt.2)]) acc = acc ++ rest
  | [], acc, _ => by simp
  | (k, t) :: rest, acc, hn => by
    have hf : acc.filter (fun p => p.1 != k) = acc := List.filter_eq_self.mpr fun p hp => by
      rw [List.map_append, List.nodup_append] at hn
      simpa using hn.2.2 p.1 (List.mem_map_of_mem hp) k (by simp)
    rw [List.foldl_cons, hf, dedup_fold rest (acc ++ [(k, t)]) (by simpa using hn)]
    simp

theorem dedupFields_nodup (fs : List (String × Ty)) (hn : nodupKeys fs = true) : dedupFields fs = fs := by
  simpa [dedupFields] using dedup_fold fs [] (by simpa using keys_nodup hn)

/-- `e` is read back by `parseTy`: run on the printed tokens of `e` followed by any `rest` that does not start with
    `->` or `|`, it answers `e` and that `rest`.  The fuel bound is generous, not sharp: reading one construct costs
    at most three nested calls (`parseStd`, a list reader, `parseTy`) and a list element one more, hence `6 * size`;
    `parseTy` calls `parseStd` (`+ 1`); `parseRet` first fails to read `(a|b)` as a standard type (`+ 4`). -/
def TyOK (e : Ty) : Prop := ∀ f rest, 6 * size e + 1 ≤ f → NoArrow rest → NoBar rest →
  parseTy f (toks e ++ rest) = some (e, rest)
/-- the same for `parseStd`, which does not look for a `|` after the type -/
def StdOK (m : Ty) : Prop := ∀ f rest, 6 * size m ≤ f → NoArrow rest →
  parseStd f (toks m ++ rest) = some (m, rest)
/-- how a type is printed in result / `mut` position -/
def retToks (r : Ty) : List Tok :=
  match r with
  | .multi _ => [.lp] ++ toks r ++ [.rp]
  | _ => toks r
def RetOK (r : Ty) : Prop := ∀ f rest, 6 * size r + 4 ≤ f → NoArrow rest →
  parseRet f (retToks r ++ rest) = some (r, rest)

theorem StdOK.of_succ {m : Ty} (h : ∀ g rest, 6 * size m ≤ g + 1 → NoArrow rest →
    parseStd (g + 1) (toks m ++ rest) = some (m, rest)) : StdOK m := by
  intro f rest hf ha
  obtain _ | g := f
  · have := size_pos m; omega
  exact h g rest hf ha

def fieldToks (p : String × Ty) : List Tok := .word p.1 :: .colon :: toks p.2

/-! The three list printers are `join` with a separator (`TyLex.joinT`).  Each constructor's token list is given once, in
    that form; what follows reads the printer off these equations. -/

theorem toksSep_eq : ∀ es : List Ty, toksSep es = joinT .comma (es.map toks)
  | [] => by simp [toksSep, joinT]
  | [e] => by simp [toksSep, joinT]
  | e :: e2 :: es => by simp [toksSep, joinT, toksSep_eq (e2 :: es)]

theorem toksBar_eq : ∀ es : List Ty, toksBar es = joinT .bar (es.map toks)
  | [] => by simp [toksBar, joinT]
  | [e] => by simp [toksBar, joinT]
  | e :: e2 :: es => by simp [toksBar, joinT, toksBar_eq (e2 :: es)]

theorem toksFields_eq : ∀ fs : List (String × Ty), toksFields fs = joinT .comma (fs.map fieldToks)
  | [] => by simp [toksFields, joinT]
  | [(k, t)] => by simp [toksFields, joinT, fieldToks]
  | (k, t) :: p :: fs => by simp [toksFields, joinT, fieldToks, toksFields_eq (p :: fs)]

theorem toks_fn (ps : List Ty) (r : Ty) :
    toks (.fn ps r) = .lp :: (joinT .comma (ps.map toks) ++ .rp :: .arrow :: retToks r) := by
  show [.lp] ++ toksSep ps ++ [.rp, .arrow] ++ retToks r = _
  simp only [toksSep_eq, List.append_assoc, List.cons_append, List.nil_append]

theorem toks_cell (e : Ty) : toks (.cell e) = .word "mut" :: retToks e := rfl

theorem toks_arr (e : Ty) (h : isNeverLike e = false) : toks (.arr e) = .lb :: (toks e ++ [.rb]) := by simp [toks, h]

theorem toks_tup (es : List Ty) : toks (.tup es) = .lp :: (joinT .comma (es.map toks) ++ [.rp]) := by
  simp [toks, toksSep_eq]

theorem toks_multi (ms : List Ty) : toks (.multi ms) = joinT .bar (ms.map toks) := by simp [toks, toksBar_eq]

theorem toks_struct (fs : List (String × Ty)) :
    toks (.struct fs) = .word "struct" :: .lc :: (joinT .comma (fs.map fieldToks) ++ [.rc]) := by
  simp [toks, toksFields_eq]

theorem noArrow_tailT (xs : List (List Tok)) (rest : List Tok) (h : NoArrow rest) : NoArrow (tailT .bar xs ++ rest) := by
  cases xs with
  | nil => exact h
  | cons x xs => rw [tailT_cons]; exact fun r hr => nomatch hr

theorem parseTy_closing (f : Nat) (ts : List Tok) : parseTy f (.rp :: ts) = none ∧ parseTy f (.rb :: ts) = none := by
  cases f with
  | zero => exact ⟨rfl, rfl⟩
  | succ f => cases f <;> exact ⟨rfl, rfl⟩

/-- the fuel for a list, less the unit its reader spends, covers the head and covers the tail -/
theorem fuel_cons {a b g : Nat} (h : 6 * (1 + a + b) + 1 ≤ g + 1) : 6 * a + 1 ≤ g ∧ 6 * b + 1 ≤ g := by omega

theorem parseList_toks : ∀ (es : List Ty), (∀ e ∈ es, TyOK e) → ∀ f rest, 6 * sizeL es + 1 ≤ f →
    parseList f (joinT .comma (es.map toks) ++ .rp :: rest) = some (es, .rp :: rest)
  | [], _, f, rest, hf => by
    obtain _ | g := f
    · exact absurd hf (Nat.not_succ_le_zero _)
    simp [joinT, parseList, (parseTy_closing g _).1]
  | [e], h, f, rest, hf => by
    obtain _ | g := f
    · exact absurd hf (Nat.not_succ_le_zero _)
    have h1 := h e (by simp) g (.rp :: rest) (fuel_cons hf).1 nofun nofun
    simp only [List.map_cons, List.map_nil, joinT, parseList, h1]
  | e :: e2 :: es, h, f, rest, hf => by
    obtain _ | g := f
    · exact absurd hf (Nat.not_succ_le_zero _)
    have h1 := h e (by simp) g (.comma :: (joinT .comma ((e2 :: es).map toks) ++ .rp :: rest)) (fuel_cons hf).1
      nofun nofun
    have h2 := parseList_toks (e2 :: es) (fun x hx => h x (by simp [hx])) g rest (fuel_cons hf).2
    simp only [List.map_cons] at h1 h2 ⊢
    simp only [joinT, List.append_assoc, List.cons_append, parseList, h1, h2]
    simp

theorem parseMore_toks : ∀ (ms : List Ty), (∀ m ∈ ms, StdOK m) → ∀ f rest acc, 6 * sizeL ms + 1 ≤ f →
    NoArrow rest → NoBar rest → 2 ≤ acc.length + ms.length →
    parseMore f (tailT .bar (ms.map toks) ++ rest) acc = some (concatL (acc ++ ms), rest)
  | [], _, f, rest, acc, hf, ha, hb, hlen => by
    obtain _ | g := f
    · exact absurd hf (Nat.not_succ_le_zero _)
    have h2 : acc.length ≥ 2 := by simpa using hlen
    simp only [List.map_nil, tailT, List.flatMap_nil, List.nil_append, parseMore]
    split
    · exact absurd rfl (hb _)
    · rw [if_pos h2, List.append_nil]
  | m :: ms, h, f, rest, acc, hf, ha, hb, hlen => by
    obtain _ | g := f
    · exact absurd hf (Nat.not_succ_le_zero _)
    simp only [List.map_cons, tailT_cons, List.cons_append, List.append_assoc, parseMore,
      h m (by simp) g (tailT .bar (ms.map toks) ++ rest) (Nat.le_of_succ_le (fuel_cons hf).1) (noArrow_tailT _ rest ha),
      parseMore_toks ms (fun x hx => h x (by simp [hx])) g rest (acc ++ [m]) (fuel_cons hf).2 ha hb
        (by simp only [List.length_append, List.length_cons, List.length_nil] at hlen ⊢; omega)]
    simp

theorem parseFields_toks : ∀ (fs : List (String × Ty)), fs ≠ [] → (∀ p ∈ fs, TyOK p.2) →
    (∀ p ∈ fs, restricted.contains p.1 = false) → ∀ f rest, 6 * sizeF fs + 1 ≤ f →
    parseFields f (joinT .comma (fs.map fieldToks) ++ .rc :: rest) = some (fs, .rc :: rest)
  | [], hne, _, _, _, _, _ => absurd rfl hne
  | [(k, t)], _, h, hk, f, rest, hf => by
    obtain _ | g := f
    · exact absurd hf (Nat.not_succ_le_zero _)
    have h1 := h (k, t) (by simp) g (.rc :: rest) (fuel_cons hf).1 nofun nofun
    simp only [List.map_cons, List.map_nil, joinT, fieldToks, List.cons_append, parseFields, hk (k, t) (by simp), h1]
    simp
  | (k, t) :: q :: fs, _, h, hk, f, rest, hf => by
    obtain _ | g := f
    · exact absurd hf (Nat.not_succ_le_zero _)
    have h1 := h (k, t) (by simp) g (.comma :: (joinT .comma ((q :: fs).map fieldToks) ++ .rc :: rest))
      (fuel_cons hf).1 nofun nofun
    have h2 := parseFields_toks (q :: fs) (by simp) (fun x hx => h x (by simp [hx])) (fun x hx => hk x (by simp [hx]))
      g rest (fuel_cons hf).2
    simp only [List.map_cons, fieldToks] at h1 h2 ⊢
    simp only [joinT, List.cons_append, List.append_assoc, parseFields, hk (k, t) (by simp), h1, h2]
    simp

/-- `parseStd` after `(`, once the parameter / component list up to `)` has been read and no `->` follows (so it
    is no function type): `()` is void, and a tuple needs two components or more, so `(t)` is not a standard type -/
theorem parseStd_lp_eq (f : Nat) (ts : List Tok) (es : List Ty) (rest : List Tok)
    (hl : parseList f ts = some (es, .rp :: rest)) (ha : NoArrow rest) :
    parseStd (f + 1) (.lp :: ts) = (match (generalizing := false) ts with
      | .rp :: rest' => some (.void, rest')
      | _ => if es.length ≥ 2 then some (.tup es, rest) else none) := by
  simp only [parseStd, hl]
  split
  · -- the function-type reading needs `->` after `)`
    rename_i heq
    split at heq
    · rename_i h2
      simp only [Option.some.injEq, Prod.mk.injEq, List.cons.injEq, true_and] at h2
      exact absurd h2.2 (ha _)
    · cases heq
  · rfl

/-- a non-empty list does not start with `)`: on such a text the list reader answers the empty list -/
theorem parseStd_lp (f : Nat) (ts : List Tok) (es : List Ty) (rest : List Tok)
    (hl : parseList f ts = some (es, .rp :: rest)) (hne : es ≠ []) (ha : NoArrow rest) :
    parseStd (f + 1) (.lp :: ts) = if es.length ≥ 2 then some (.tup es, rest) else none := by
  rw [parseStd_lp_eq f ts es rest hl ha]
  split
  · cases f with
    | zero => cases hl
    | succ g =>
      simp only [parseList, (parseTy_closing g _).1, Option.some.injEq, Prod.mk.injEq] at hl
      exact absurd hl.1.symm hne
  · rfl

theorem parseStd_lb (f : Nat) (ts : List Tok) (h : ∀ r, ts ≠ .rb :: r) :
    parseStd (f + 1) (.lb :: ts) = (match parseTy f ts with
      | some (e, .rb :: rest') => some (.arr e, rest')
      | _ => none) := by
  rw [parseStd]
  · rfl
  · exact h

theorem stdOK_arr (e : Ty) (hw : wf e = true) (he : TyOK e) : StdOK (.arr e) := by
  refine StdOK.of_succ fun g rest hf ha => ?_
  simp only [size] at hf
  by_cases hn : isNeverLike e = true
  · have := neverLike_wf e hw hn
    subst this
    simp [toks, hn, parseStd]
  · have hty := he g (.rb :: rest) (by omega) nofun nofun
    -- what `parseTy` reads does not start with `]`
    rw [toks_arr e (by simpa using hn), List.cons_append, List.append_assoc, List.singleton_append,
      parseStd_lb g _ (fun r hr => by rw [hr, (parseTy_closing g r).2] at hty; cases hty), hty]

theorem stdOK_tup (es : List Ty) (hlen : 2 ≤ es.length) (hes : ∀ e ∈ es, TyOK e) : StdOK (.tup es) := by
  refine StdOK.of_succ fun g rest hf ha => ?_
  simp only [size] at hf
  have hl := parseList_toks es hes g rest (by omega)
  rw [toks_tup, List.cons_append, List.append_assoc, List.singleton_append,
    parseStd_lp g _ es rest hl (fun h => by rw [h] at hlen; cases hlen) ha, if_pos hlen]

theorem stdOK_struct (fs : List (String × Ty)) (hn : nodupKeys fs = true)
    (hk : ∀ p ∈ fs, restricted.contains p.1 = false) (hfs : ∀ p ∈ fs, TyOK p.2) : StdOK (.struct fs) := by
  refine StdOK.of_succ fun g rest hf ha => ?_
  simp only [size] at hf
  simp only [toks_struct, List.append_assoc, List.cons_append, List.nil_append]
  cases fs with
  | nil => simp [joinT, parseStd]
  | cons p fs =>
    have hl := parseFields_toks (p :: fs) (by simp) hfs hk g rest (by omega)
    -- the fields start with a key, not with `}`
    rw [List.map_cons, joinT_cons, fieldToks] at hl ⊢
    simp only [List.cons_append, List.append_assoc] at hl
    simp [parseStd, hl, dedupFields_nodup _ hn]

theorem ok_of_std (t : Ty) (hm : isMulti t = false) (h : StdOK t) : TyOK t ∧ RetOK t := by
  refine ⟨fun f rest hf ha hb => ?_, fun f rest hf ha => ?_⟩
  · obtain _ | g := f
    · exact absurd hf (Nat.not_succ_le_zero _)
    simp only [parseTy, h g rest (Nat.le_of_succ_le_succ hf) ha]
    split
    · exact absurd rfl (hb _)
    · rfl
  · obtain _ | g := f
    · exact absurd hf (Nat.not_succ_le_zero _)
    have e : retToks t = toks t := by cases t <;> first | rfl | cases hm
    simp only [e, parseRet, h g rest (by omega) ha]

theorem tyOK_multi (ms : List Ty) (hw : wf (.multi ms) = true) (hms : ∀ m ∈ ms, StdOK m) : TyOK (.multi ms) := by
  intro f rest hf ha hb
  obtain _ | g := f
  · omega
  have hlen := (inv_of_wf_multi ms hw).1
  rcases ms with _ | ⟨m1, _ | ⟨m2, ms⟩⟩
  · simp at hlen
  · simp at hlen
  · simp only [size, sizeL] at hf
    have h1 := hms m1 (by simp) g (tailT .bar ((m2 :: ms).map toks) ++ rest) (by omega) (noArrow_tailT _ rest ha)
    have h2 := parseMore_toks (m2 :: ms) (fun x hx => hms x (by simp [hx])) g rest [m1]
      (by simp only [sizeL]; omega) ha hb (by simp only [List.length_cons, List.length_nil]; omega)
    rw [toks_multi, List.map_cons, joinT_cons, List.append_assoc]
    simp only [parseTy, h1]
    simp only [List.map_cons, tailT_cons, List.cons_append, List.nil_append] at h2 ⊢
    rw [h2, concatL_wf _ hw]

/-- a union in result / `mut` position: `(a|b)` is not a standard type unless `->` follows - no function type
    (the parameter list would need `->` after it), not `()`, not a tuple (one component) - so the
    parenthesised reading is taken -/
theorem retOK_multi (ms : List Ty) (hty : TyOK (.multi ms)) : RetOK (.multi ms) := by
  intro f rest hf ha
  obtain ⟨h, rfl⟩ : ∃ h, f = h + 3 := ⟨f - 3, by omega⟩
  have hin : ∀ g, h ≤ g → parseTy g (toks (.multi ms) ++ .rp :: rest) = some (.multi ms, .rp :: rest) :=
    fun g hg => hty g (.rp :: rest) (by omega) nofun nofun
  have hnone : parseStd (h + 2) (.lp :: (toks (.multi ms) ++ .rp :: rest)) = none := by
    have hl : parseList (h + 1) (toks (.multi ms) ++ .rp :: rest) = some ([.multi ms], .rp :: rest) := by
      simp only [parseList, hin h (Nat.le_refl _)]
    exact parseStd_lp (h + 1) _ _ rest hl nofun ha
  simp only [retToks, List.append_assoc, List.cons_append, List.nil_append]
  simp only [parseRet, hnone, hin (h + 2) (by omega)]

theorem printableL_mem {ts : List Ty} (h : printableL ts = true) {x : Ty} (hx : x ∈ ts) : printable x = true :=
  (all_of_eqns (f := printableL) rfl (fun _ _ => rfl) ts).mp h x hx

theorem printableF_mem {fs : List (String × Ty)} (h : printableF fs = true) {p : String × Ty} (hp : p ∈ fs) :
    restricted.contains p.1 = false ∧ printable p.2 = true := by
  simpa using (all_of_eqns (f := printableF) (p := fun p => !restricted.contains p.1 && printable p.2)
    (by rw [printableF]) (fun ⟨_, _⟩ _ => by rw [printableF]) fs).mp h p hp

/-- `()` reads as void unless it is followed by `->` (then it is an empty parameter list) -/
theorem stdOK_void : StdOK .void := by
  intro f rest hf ha
  obtain ⟨g, rfl⟩ : ∃ g, f = g + 2 := ⟨f - 2, by simp only [size] at hf; omega⟩
  have hl : parseList (g + 1) (.rp :: rest) = some ([], .rp :: rest) := by
    simp only [parseList, (parseTy_closing g _).1]
  exact parseStd_lp_eq (g + 1) _ [] rest hl ha

theorem roundtrip_all (t : Ty) : wf t = true → printable t = true →
    (isMulti t = false → StdOK t) ∧ TyOK t ∧ RetOK t := by
  have all : ∀ t, isMulti t = false → StdOK t → (isMulti t = false → StdOK t) ∧ TyOK t ∧ RetOK t :=
    fun t hm h => ⟨fun _ => h, ok_of_std t hm h⟩
  induction t using Ty.induction_mem with
  | void => exact fun _ _ => all _ rfl stdOK_void
  | bool | int | float | str | any | never =>
    exact fun _ _ => all _ rfl (StdOK.of_succ fun g rest _ _ => by simp [toks, parseStd])
  | fn ps r ihp ihr =>
    intro hw hp
    simp only [wf, Bool.and_eq_true] at hw
    simp only [printable, Bool.and_eq_true] at hp
    refine all _ rfl (StdOK.of_succ fun g rest hf ha => ?_)
    simp only [size] at hf
    simp only [toks_fn, List.append_assoc, List.cons_append]
    simp only [parseStd, (ihr hw.2 hp.2).2.2 g rest (by omega) ha, parseList_toks ps
      (fun p hpm => (ihp p hpm (wfL_mem hw.1 hpm) (printableL_mem hp.1 hpm)).2.1) g _ (by omega)]
  | arr e ih =>
    intro hw hp
    simp only [wf] at hw
    simp only [printable] at hp
    exact all _ rfl (stdOK_arr e hw (ih hw hp).2.1)
  | tup es ih =>
    intro hw hp
    simp only [wf] at hw
    simp only [printable, Bool.and_eq_true, decide_eq_true_eq] at hp
    exact all _ rfl (stdOK_tup es hp.1 fun e he => (ih e he (wfL_mem hw he) (printableL_mem hp.2 he)).2.1)
  | cell e ih =>
    intro hw hp
    simp only [wf] at hw
    simp only [printable] at hp
    refine all _ rfl (StdOK.of_succ fun g rest hf ha => ?_)
    simp only [size] at hf
    rw [toks_cell, List.cons_append]
    simp [parseStd, (ih hw hp).2.2 g rest (by omega) ha]
  | struct fs ih =>
    intro hw hp
    simp only [wf, Bool.and_eq_true] at hw
    simp only [printable] at hp
    exact all _ rfl (stdOK_struct fs hw.2 (fun p hpm => (printableF_mem hp hpm).1)
      fun p hpm => (ih p hpm (wfF_mem hw.1 hpm) (printableF_mem hp hpm).2).2.1)
  | multi ms ih =>
    intro hw hp
    simp only [printable] at hp
    have hty : TyOK (.multi ms) := tyOK_multi ms hw fun m hm =>
      have hm' := member_plain_wf hw hm
      (ih m hm hm'.2 (printableL_mem hp hm)).1 hm'.1.1
    exact ⟨fun h => by simp [isMulti] at h, hty, retOK_multi ms hty⟩

/-- **printing then parsing gives the type back** (on tokens): for every well-formed printable type,
    with enough fuel, and whatever follows it unless that is `->` or `|` -/
theorem roundtrip_tokens (t : Ty) (hw : wf t = true) (hp : printable t = true) (rest : List Tok)
    (ha : NoArrow rest) (hb : NoBar rest) (f : Nat) (hf : 6 * size t + 1 ≤ f) :
    parseTy f (toks t ++ rest) = some (t, rest) :=
  (roundtrip_all t hw hp).2.1 f rest hf ha hb

/-- non-vacuity: a nested type meeting the hypotheses, and its round trip at the top level -/
def sampleTy : Ty :=
  .fn [.multi [.int, .str], .tup [.int, .cell (.multi [.int, .void])]]
      (.multi [.arr .never, .struct [("a", .fn [] (.tup [.bool, .any]))]])

theorem sampleTy_ok : wf sampleTy = true ∧ printable sampleTy = true := by
  constructor
  · simp [sampleTy, wf, wfL, wfF, membersOk, nodupL, nodupKeys, memL, eqv]
  · simp [sampleTy, printable, printableL, printableF, restricted]

example : wf sampleTy = true ∧ printable sampleTy = true := sampleTy_ok

example : ∃ f, parseTy f (toks sampleTy) = some (sampleTy, []) :=
  ⟨6 * size sampleTy + 1, by
    simpa using roundtrip_tokens sampleTy sampleTy_ok.1 sampleTy_ok.2 [] nofun nofun _ (Nat.le_refl _)⟩

/-! ## from tokens to text

The lexer gives the printed tokens back when no two words meet and every word is a word (`TyLex.lex_render`, `TyLex.LexOk`):
the printer never puts two words side by side except after `mut`, which it follows with a space, and its words are the
keywords and the struct keys (`lexOk_toks`, whence the hypothesis `identKeys`).  The fuel the model's
`parse` takes from the number of tokens is enough for `roundtrip_tokens` (`size_le_toks`). -/

mutual
/-- struct keys are words (non-empty, letters / digits / `_`) - what the grammar's `ident` admits -/
def identKeys : Ty → Bool
  | .fn ps r => identKeysL ps && identKeys r
  | .arr e => identKeys e
  | .tup es => identKeysL es
  | .multi ms => identKeysL ms
  | .cell e => identKeys e
  | .struct fs => identKeysF fs
  | _ => true
def identKeysL : List Ty → Bool
  | [] => true
  | t :: ts => identKeys t && identKeysL ts
def identKeysF : List (String × Ty) → Bool
  | [] => true
  | (k, t) :: fs => wordOk k && identKeys t && identKeysF fs
end

theorem identKeysL_mem {ts : List Ty} (h : identKeysL ts = true) {x : Ty} (hx : x ∈ ts) : identKeys x = true :=
  (all_of_eqns (f := identKeysL) rfl (fun _ _ => rfl) ts).mp h x hx

theorem identKeysF_mem {fs : List (String × Ty)} (h : identKeysF fs = true) {p : String × Ty} (hp : p ∈ fs) :
    wordOk p.1 = true ∧ identKeys p.2 = true := by
  simpa using (all_of_eqns (f := identKeysF) (p := fun p => wordOk p.1 && identKeys p.2)
    (by rw [identKeysF]) (fun ⟨_, _⟩ _ => by rw [identKeysF]) fs).mp h p hp

theorem lexOk_ret (r : Ty) (h : LexOk (toks r)) : LexOk (retToks r) := by
  unfold retToks
  split
  · exact lexOk_punct_cons rfl (lexOk_append_punct rfl h lexOk_nil)
  · exact h

theorem lexOk_sep {sep : Tok} (hs : isWordTok sep = false) (es : List Ty) (h : ∀ e ∈ es, LexOk (toks e)) :
    LexOk (joinT sep (es.map toks)) :=
  lexOk_joinT hs _ (by simpa using h)

theorem lexOk_toks (t : Ty) : identKeys t = true → LexOk (toks t) := by
  induction t using Ty.induction_mem with
  | fn ps r ihp ihr =>
    intro hk
    simp only [identKeys, Bool.and_eq_true] at hk
    rw [toks_fn]
    exact lexOk_punct_cons rfl (lexOk_append_punct rfl (lexOk_sep rfl ps fun x hx => ihp x hx (identKeysL_mem hk.1 hx))
      (lexOk_punct_cons rfl (lexOk_ret r (ihr hk.2))))
  | arr e ih =>
    intro hk
    simp only [identKeys] at hk
    by_cases h : isNeverLike e = true
    · simp only [toks, h, if_true]; exact ⟨rfl, rfl⟩
    · rw [toks_arr e (by simpa using h)]
      exact lexOk_punct_cons rfl (lexOk_append_punct rfl (ih hk) lexOk_nil)
  | tup es ih =>
    intro hk
    simp only [identKeys] at hk
    rw [toks_tup]
    exact lexOk_punct_cons rfl (lexOk_append_punct rfl (lexOk_sep rfl es fun x hx => ih x hx (identKeysL_mem hk hx))
      lexOk_nil)
  | multi ms ih =>
    intro hk
    simp only [identKeys] at hk
    rw [toks_multi]
    exact lexOk_sep rfl ms fun x hx => ih x hx (identKeysL_mem hk hx)
  | cell e ih =>
    intro hk
    simp only [identKeys] at hk
    rw [toks_cell]
    exact lexOk_mut_cons (lexOk_ret e (ih hk))
  | struct fs ih =>
    intro hk
    simp only [identKeys] at hk
    rw [toks_struct]
    refine lexOk_word_punct (by decide) rfl (lexOk_append_punct rfl (lexOk_joinT rfl _ fun x hx => ?_) lexOk_nil)
    obtain ⟨p, hp, rfl⟩ := List.mem_map.mp hx
    exact lexOk_word_punct (identKeysF_mem hk hp).1 rfl (ih p hp (identKeysF_mem hk hp).2)
  | bool | int | float | str | any | void | never => exact fun _ => ⟨rfl, by decide⟩

theorem len_sep (sep : Tok) (es : List Ty) (h : ∀ e ∈ es, size e + 1 ≤ 2 * (toks e).length) :
    sizeL es + 2 * es.length ≤ 2 * (joinT sep (es.map toks)).length + 2 :=
  len_joinT sep toks size sizeL rfl (fun _ _ => rfl) es h

theorem len_ret (r : Ty) : (toks r).length ≤ (retToks r).length := by
  unfold retToks
  split <;> simp <;> omega

/-- the printed token list is at least half as long as the type is big: the parser's fuel, taken from the number of
    tokens, is enough -/
theorem size_le_toks (t : Ty) (hw : wf t = true) : size t + 1 ≤ 2 * (toks t).length := by
  induction t using Ty.induction_mem with
  | fn ps r ihp ihr =>
    simp only [size]
    simp only [wf, Bool.and_eq_true] at hw
    have h1 := len_sep .comma ps (fun x hx => ihp x hx (wfL_mem hw.1 hx))
    have h2 := ihr hw.2
    have h3 := len_ret r
    rw [toks_fn]
    simp only [List.length_append, List.length_cons]
    omega
  | arr e ih =>
    simp only [size]
    simp only [wf] at hw
    by_cases hn : isNeverLike e = true
    · cases neverLike_wf e hw hn
      simp [toks, hn, size]
    · have := ih hw
      rw [toks_arr e (by simpa using hn), List.length_cons, List.length_append]
      simp only [List.length_cons, List.length_nil]
      omega
  | tup es ih =>
    simp only [size]
    simp only [wf] at hw
    have h1 := len_sep .comma es (fun x hx => ih x hx (wfL_mem hw hx))
    simp only [toks_tup, List.length_append, List.length_cons, List.length_nil]
    omega
  | multi ms ih =>
    simp only [size]
    simp only [wf, Bool.and_eq_true, decide_eq_true_eq] at hw
    have h1 := len_sep .bar ms (fun x hx => ih x hx (wfL_mem hw.1.1.2 hx))
    rw [toks_multi]
    omega
  | cell e ih =>
    simp only [size]
    simp only [wf] at hw
    have h2 := ih hw
    have h3 := len_ret e
    rw [toks_cell, List.length_cons]
    omega
  | struct fs ih =>
    simp only [size]
    simp only [wf, Bool.and_eq_true] at hw
    have h1 := len_joinT .comma fieldToks (fun p => size p.2) sizeF rfl (fun _ _ => rfl) fs
      (fun p hp => by have := ih p hp (wfF_mem hw.1 hp); simp only [fieldToks, List.length_cons]; omega)
    simp only [toks_struct, List.length_append, List.length_cons, List.length_nil]
    omega
  | _ => simp [toks, size]

/-- **printing then parsing gives the type back, on text**: for every well-formed printable type whose struct keys are
    identifiers, the parser (lexer included, with the fuel the model's `parse` takes from the token count) run on the
    printed string returns exactly the type -/
theorem roundtrip_text (t : Ty) (hw : wf t = true) (hp : printable t = true) (hk : identKeys t = true) :
    parse (print t) = some t := by
  unfold parse print
  rw [lex_render (toks t) (lexOk_toks t hk).1 (lexOk_toks t hk).2]
  have hsz := size_le_toks t hw
  have := roundtrip_tokens t hw hp [] nofun nofun
    (12 * (toks t).length + 2) (by omega)
  simp only [List.append_nil] at this
  simp [this]

theorem sampleTy_keys : identKeys sampleTy = true := by
  simp [sampleTy, identKeys, identKeysL, identKeysF]; decide

example : identKeys sampleTy = true := sampleTy_keys

example : parse (print sampleTy) = some sampleTy :=
  roundtrip_text sampleTy sampleTy_ok.1 sampleTy_ok.2 sampleTy_keys

end Ssl.C15
