import SslModel.Thm.C01Outcomes
import SslModel.Thm.C04Fold
/-!
# C01 for programs with constants: the chain through the folding pass

The implementation type-checks a program as written, folds it, and reports the static type of the
folded program.  The checker model is tied to the implementation on programs with nothing to fold,
and - composed with the folding model - on programs full of constants (stream `fold-types`).  This
file closes the chain on the model side: the ORIGINAL program, run under the reference semantics,
yields a value of the type the checker model assigns to the FOLDED program.

  value of `prog`  =  value of `fold prog`          (Thm/C04Fold: `foldProgram_correct`)
                   ∈  `tySProgram (fold prog)`      (Thm/C01Outcomes: `program_outcome`)
-/
namespace Ssl.CS
open Ssl Ssl.Ty Ssl.Val Ssl.Spec Ssl.Check Ssl.CheckF Ssl.CheckS Ssl.C01 Ssl.Fold

theorem folded_program_sound (prog prog' : List Expr) (T : Ty)
    (hc : coveredS prog = true) (hf : foldProgram prog = .ok prog')
    (ht : tySProgram [] prog' = .ok T) (f : Nat) :
    (match (evalSeq f [[]] prog {}).1 with
     | .ok p => sub p.1.asType T = true ∧ hasTy p.1 T = true
     | .error (.err _) => True
     | .error .fuel => True
     | .error _ => False) := by
  by_cases hfuel : ∃ σ', evalSeq f [[]] prog {} = (.error .fuel, σ')
  · obtain ⟨σ', h⟩ := hfuel
    rw [h]; trivial
  · obtain ⟨f0, h0⟩ := foldProgram_correct prog prog' hc hf f [[]] {} _ rfl
      (fun σ' h => hfuel ⟨σ', h⟩)
    have := program_outcome f0 prog' T ht
    rw [h0 f0 (Nat.le_refl _)] at this
    exact this

/-- the hypotheses are satisfiable: the demonstration program of Thm/C04Fold (a constant carried through a name into a
    pruned branch, a folded index, a dropped statement, a cell) folds, and the folded program is typed `int` -/
theorem demoFolded_typed : tySProgram [] demoFolded = .ok .int := by
  simp [tySProgram, demoFolded, tySSeq, tySStmt, tyS, Res.bind, okW, binTy, TEnv.lookup, lastTy, pairTy,
    accAddScalar, wf, eqv, sub, anyMatch, matchesL]

example (f : Nat) :
    (match (evalSeq f [[]] demoProgram {}).1 with
     | .ok p => sub p.1.asType .int = true ∧ hasTy p.1 .int = true
     | .error (.err _) => True
     | .error .fuel => True
     | .error _ => False) :=
  folded_program_sound demoProgram demoFolded .int demo_covered demo_folds demoFolded_typed f

end Ssl.CS
