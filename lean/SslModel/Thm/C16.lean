import SslModel.Model.Conc
import SslModel.Gen.LockShape
/-!
# C16 — parsed code and values are safe to share between threads

Over the model of `SslModel.Model.Conc` (every assignment is one atomic step on the store, because
`assign::exec` / `try_exec` read, compute and write under ONE write guard — checked against the
source by the translator's `Gen.LockShape` and by running real threads). Every operation is read as a function on the
content of its own cell (`out`: what the thread gets back, `upd`: what the cell holds afterwards; `step_eq`), and
commuting, privacy and the step of a thread are argued on that form:

* `final_store_of_complete_run` — whatever the schedule, when all threads are through, the store
  is the result of applying *some permutation* of all their operations, each exactly once;
* `schedule_independent` — if the operations commute pairwise, the final store is the same for all
  complete schedules, namely that of running the threads one after the other;
* `increments_exact` — N concurrent `c += d` steps add exactly the sum of the `d`s (wrapping), for
  any schedule; `commute_*` — which assignment operators commute;
* `private_thread_sequential` — a thread none of whose cells is touched by another thread sees,
  under every schedule, exactly what it sees when run alone;
* `no_deadlock` — in the finer model with explicit acquire / release steps, every reachable
  configuration that is not finished has an enabled thread.
-/
namespace Ssl.C16
open Ssl Ssl.Conc

/-! ## the shape of the source the model stands on (regenerated on every run) -/

/-- `assign::exec` and `assign::try_exec` each take the write guard once, never a read guard, and
    read the old value and store the new one through that guard; and these — with the read in
    `*cell` and the one in `Mut::string` — are all the lock acquisitions, lock-like calls and
    `unsafe` blocks of the crate -/
theorem lock_shape :
    Gen.assignLockFns = [("exec", 0, 1, true), ("try_exec", 0, 1, true)] ∧
    Gen.lockSites = [("src/instruction/bin_op/assign.rs", 0, 2, 0, 0),
                     ("src/instruction/prefix_op.rs", 1, 0, 0, 0),
                     ("src/variable/mut.rs", 1, 0, 0, 0)] := ⟨rfl, rfl⟩

/-- the twelve assignment operators of `BinOperation::exec` and the scalar operation each applies -/
theorem assign_table : Gen.assignTable =
    [("Assign", "<rhs>"), ("AssignAdd", "add"), ("AssignSubtract", "subtract"), ("AssignMultiply", "multiply"),
     ("AssignDivide", "divide"), ("AssignModulo", "modulo"), ("AssignLShift", "lshift"), ("AssignRShift", "rshift"),
     ("AssignBitwiseAnd", "bitwise_and"), ("AssignBitwiseOr", "bitwise_or"), ("AssignXor", "xor"), ("AssignPow", "pow")] :=
  rfl

def apply (s : Store) (op : Op) : Store := (step s op).1

def out : Op → I64 → Out
  | .read _, x => .ok x
  | .assign _ o r, x => o.apply x r

def upd (op : Op) (x : I64) : I64 :=
  match out op x with
  | .ok v => v
  | .error _ => x

theorem set_self (s : Store) (c : Nat) : s.set c (s c) = s := by
  funext k; simp only [Store.set]; split <;> simp [*]

theorem set_set_ne (s : Store) (c d : Nat) (v w : I64) (h : c ≠ d) :
    (s.set c v).set d w = (s.set d w).set c v := by
  funext k
  simp only [Store.set]
  by_cases h1 : k = c <;> by_cases h2 : k = d <;> simp_all

theorem set_set_same (s : Store) (c : Nat) (v w : I64) : (s.set c v).set c w = s.set c w := by
  funext k; simp only [Store.set]; by_cases h : k = c <;> simp [h]

theorem step_eq (s : Store) (op : Op) :
    step s op = (s.set op.cell (upd op (s op.cell)), out op (s op.cell)) := by
  cases op with
  | read c => simp only [step, upd, out, Op.cell, set_self]
  | assign c o r =>
    simp only [step, upd, out, Op.cell]
    cases o.apply (s c) r <;> simp only [set_self]

theorem apply_eq (s : Store) (op : Op) : apply s op = s.set op.cell (upd op (s op.cell)) := by
  rw [apply, step_eq]

theorem apply_read (s : Store) (c : Nat) : apply s (.read c) = s := rfl

theorem apply_assign (s : Store) (c : Nat) (o : AOp) (r : I64) :
    apply s (.assign c o r) = match o.apply (s c) r with | .ok v => s.set c v | .error _ => s := by
  rw [apply_eq]
  simp only [Op.cell, upd, out]
  cases o.apply (s c) r <;> simp only [set_self]

theorem apply_other (s : Store) (op : Op) (k : Nat) (h : k ≠ op.cell) : apply s op k = s k := by
  simp [apply_eq, Store.set, h]

/-- operations that cannot fail: a read, and an assignment with one of `= += -= *= &= |= ^=` (`set add sub mul band bor
    xor`); division, remainder, power and the shifts can -/
def Op.total : Op → Bool
  | .read _ => true
  | .assign _ o _ =>
    match o with
    | .set | .add | .sub | .mul | .band | .bor | .xor => true
    | _ => false

theorem apply_total (x r : I64) :
    AOp.apply .set x r = .ok r ∧ AOp.apply .add x r = .ok (x + r) ∧ AOp.apply .sub x r = .ok (x - r) ∧
    AOp.apply .mul x r = .ok (x * r) ∧ AOp.apply .band x r = .ok (x &&& r) ∧
    AOp.apply .bor x r = .ok (x ||| r) ∧ AOp.apply .xor x r = .ok (x ^^^ r) :=
  ⟨rfl, rfl, rfl, rfl, rfl, rfl, rfl⟩

theorem step_total (s : Store) (op : Op) (h : Op.total op = true) : ∃ v, (step s op).2 = .ok v := by
  rw [step_eq]
  cases op with
  | read c => exact ⟨_, rfl⟩
  | assign c o rhs => cases o <;> simp [Op.total] at h <;> simp [out, apply_total]

theorem advance_cases (t : Thread) :
    (t.runnable = false ∧ ∀ s, t.advance s = (t, s)) ∨
    ∃ op rest, t.todo = op :: rest ∧
      ∀ s, t.advance s = ({ todo := rest, seen := (step s op).2 :: t.seen }, (step s op).1) := by
  cases hr : t.runnable with
  | false => exact .inl ⟨rfl, fun s => by unfold Thread.advance; split <;> simp [hr]⟩
  | true =>
    cases ht : t.todo with
    | nil => simp [Thread.runnable, ht] at hr
    | cons op rest => exact .inr ⟨op, rest, rfl, fun s => by simp [Thread.advance, ht, hr]⟩

/-- nothing the thread has done so far failed, and nothing it still has to do can (`Op.total`): it never stops early -/
def Thread.Ok (t : Thread) : Prop :=
  (∀ o ∈ t.seen, ∃ v, o = Except.ok v) ∧ (∀ op ∈ t.todo, Op.total op = true)

theorem runnable_of_ok (t : Thread) (h : Thread.Ok t) : t.runnable = !t.todo.isEmpty := by
  unfold Thread.runnable
  cases ht : t.todo with
  | nil => simp
  | cons op rest =>
    cases hs : t.seen with
    | nil => simp
    | cons o os =>
      obtain ⟨v, hv⟩ := h.1 o (by simp [hs])
      subst hv; simp

def todoAll (ts : List Thread) : List Op := ts.flatMap (·.todo)

theorem todoAll_set (ts : List Thread) (i : Nat) (t t' : Thread) (op : Op) (rest : List Op)
    (hi : ts[i]? = some t) (ht : t.todo = op :: rest) (ht' : t'.todo = rest) :
    List.Perm (todoAll ts) (op :: todoAll (ts.set i t')) := by
  obtain ⟨hlt, rfl⟩ := List.getElem?_eq_some_iff.mp hi
  rw [List.set_eq_take_append_cons_drop, if_pos hlt]
  conv => lhs; rw [← List.take_append_drop i ts, List.drop_eq_getElem_cons hlt]
  simp only [todoAll, List.flatMap_append, List.flatMap_cons, ht, ht']
  exact List.perm_middle

/-- the hypothesis of `final_store_of_complete_run`, `schedule_independent` and `run_spec`: every thread is `Thread.Ok`,
    so a complete run executes every operation (a thread whose operation fails would stop with work left) -/
def AllOk (c : Cfg) : Prop := ∀ t ∈ c.threads, Thread.Ok t

/-- a scheduler choice changes nothing, or takes the first operation off a runnable thread and executes it: the one
    fact about `pick` on which the three arguments about schedules below rest -/
theorem pick_cases (c : Cfg) (i : Nat) :
    c.pick i = c ∨
    ∃ t op rest, c.threads[i]? = some t ∧ t.todo = op :: rest ∧
      (∀ s, t.advance s = ({ todo := rest, seen := (step s op).2 :: t.seen }, (step s op).1)) ∧
      c.pick i = { store := (step c.store op).1,
                   threads := c.threads.set i { todo := rest, seen := (step c.store op).2 :: t.seen } } := by
  cases hi : c.threads[i]? with
  | none => exact .inl (by simp only [Cfg.pick, hi])
  | some t =>
    rcases advance_cases t with ⟨_, hadv⟩ | ⟨op, rest, ht, hadv⟩
    · obtain ⟨hlt, rfl⟩ := List.getElem?_eq_some_iff.mp hi
      exact .inl (by simp only [Cfg.pick, hi, hadv, List.set_getElem_self])
    · exact .inr ⟨t, op, rest, rfl, ht, hadv, by simp only [Cfg.pick, hi, hadv]⟩

/-- a scheduler choice either changes nothing or executes exactly one pending operation -/
theorem pick_spec (c : Cfg) (i : Nat) (h : AllOk c) :
    AllOk (c.pick i) ∧
    ((c.pick i).store = c.store ∧ todoAll (c.pick i).threads = todoAll c.threads ∨
     ∃ op, (c.pick i).store = apply c.store op ∧
       List.Perm (todoAll c.threads) (op :: todoAll (c.pick i).threads)) := by
  rcases pick_cases c i with e | ⟨t, op, rest, hi, ht, _, e⟩ <;> rw [e]
  · exact ⟨h, .inl ⟨rfl, rfl⟩⟩
  · have hok := h t (List.mem_of_getElem? hi)
    -- the operation is total, so what the thread has seen stays free of errors
    obtain ⟨v, hv⟩ := step_total c.store op (hok.2 op (by simp [ht]))
    refine ⟨fun x hx => ?_, .inr ⟨op, rfl, todoAll_set c.threads i t _ op rest hi ht rfl⟩⟩
    rcases List.mem_or_eq_of_mem_set hx with hx | rfl
    · exact h x hx
    · exact ⟨fun o ho => (List.mem_cons.mp ho).elim (fun e => ⟨v, e ▸ hv⟩) (hok.1 o),
        fun op' hop' => hok.2 op' (by simp [ht, hop'])⟩

/-- **whatever the schedule**: the store after a run is the initial store with some of the
    pending operations applied, each once, the rest still pending -/
theorem run_spec (sched : List Nat) (c : Cfg) (h : AllOk c) :
    AllOk (c.run sched) ∧
    ∃ done : List Op, (c.run sched).store = done.foldl apply c.store ∧
      List.Perm (todoAll c.threads) (done ++ todoAll (c.run sched).threads) := by
  refine List.foldlRecOn (motive := fun c' => AllOk c' ∧ ∃ done : List Op, c'.store = done.foldl apply c.store ∧
    List.Perm (todoAll c.threads) (done ++ todoAll c'.threads)) sched Cfg.pick ⟨h, [], rfl, by simp⟩ ?_
  rintro c' ⟨hok, done, hstore, hperm⟩ i _
  obtain ⟨hok1, hcase⟩ := pick_spec c' i hok
  refine ⟨hok1, ?_⟩
  rcases hcase with ⟨hs, ht⟩ | ⟨op, hs, hp⟩
  · exact ⟨done, by rw [hs, hstore], by rw [ht]; exact hperm⟩
  · refine ⟨done ++ [op], by rw [hs, hstore, List.foldl_append]; rfl, ?_⟩
    simpa using hperm.trans (List.Perm.append_left done hp)

theorem finished_todo_nil (c : Cfg) (h : AllOk c) (hf : c.finished = true) : todoAll c.threads = [] := by
  unfold Cfg.finished at hf
  simp only [List.all_eq_true] at hf
  unfold todoAll
  rw [List.flatMap_eq_nil_iff]
  intro t ht
  have := hf t ht
  rw [runnable_of_ok t (h t ht)] at this
  simpa using this

/-- **every complete run applies a permutation of all operations**, each exactly once -/
theorem final_store_of_complete_run (c : Cfg) (sched : List Nat) (h : AllOk c)
    (hf : (c.run sched).finished = true) :
    ∃ done : List Op, List.Perm (todoAll c.threads) done ∧ (c.run sched).store = done.foldl apply c.store := by
  obtain ⟨hok, done, hs, hp⟩ := run_spec sched c h
  rw [finished_todo_nil _ hok hf, List.append_nil] at hp
  exact ⟨done, hp, hs⟩

def Commute (a b : Op) : Prop := ∀ s : Store, apply (apply s a) b = apply (apply s b) a

/-- **schedule independence**: with pairwise commuting operations every complete schedule ends in
    the store obtained by running the threads one after the other -/
theorem schedule_independent (c : Cfg) (sched : List Nat) (h : AllOk c)
    (hc : ∀ a ∈ todoAll c.threads, ∀ b ∈ todoAll c.threads, Commute a b)
    (hf : (c.run sched).finished = true) :
    (c.run sched).store = (todoAll c.threads).foldl apply c.store := by
  obtain ⟨done, hp, hs⟩ := final_store_of_complete_run c sched h hf
  rw [hs]
  exact (List.Perm.foldl_eq' hp (fun x hx y hy z => hc x hx y hy z) c.store).symm

theorem commute_of_upd (a b : Op) (h : a.cell = b.cell → ∀ x, upd b (upd a x) = upd a (upd b x)) :
    Commute a b := by
  intro s
  simp only [apply_eq]
  by_cases e : a.cell = b.cell
  · simp [e, Store.set, set_set_same, h e]
  · simp only [Store.set, e, Ne.symm e, if_false]
    exact set_set_ne s _ _ _ _ e

theorem commute_diff_cells (a b : Op) (h : a.cell ≠ b.cell) : Commute a b :=
  commute_of_upd a b fun e => absurd e h

/-- two updates by an associative and commutative operator may be made in either order: what the five operators
    `+= *= &= |= ^=` have in common (`-=` adds the negative) -/
theorem right_comm {α : Type} {f : α → α → α} (ha : ∀ x y z, f (f x y) z = f x (f y z)) (hc : ∀ x y, f x y = f y x)
    (x a b : α) : f (f x a) b = f (f x b) a := by
  rw [ha, hc a b, ← ha]

theorem add_right_comm (x a b : I64) : x + a + b = x + b + a :=
  right_comm BitVec.add_assoc BitVec.add_comm x a b

/-- `+=` and `-=` on one cell commute with each other -/
theorem commute_add_add (c : Nat) (a b : I64) : Commute (.assign c .add a) (.assign c .add b) :=
  commute_of_upd _ _ fun _ x => add_right_comm x a b
theorem commute_add_sub (c : Nat) (a b : I64) : Commute (.assign c .add a) (.assign c .sub b) :=
  commute_of_upd _ _ fun _ x => show x + a - b = x - b + a by
    rw [BitVec.sub_eq_add_neg, BitVec.sub_eq_add_neg]; exact add_right_comm x a (-b)
theorem commute_sub_sub (c : Nat) (a b : I64) : Commute (.assign c .sub a) (.assign c .sub b) :=
  commute_of_upd _ _ fun _ x => show x - a - b = x - b - a by
    simp only [BitVec.sub_eq_add_neg]; exact add_right_comm x (-a) (-b)
theorem commute_mul_mul (c : Nat) (a b : I64) : Commute (.assign c .mul a) (.assign c .mul b) :=
  commute_of_upd _ _ fun _ x => right_comm (f := (· * ·)) BitVec.mul_assoc BitVec.mul_comm x a b
theorem commute_and_and (c : Nat) (a b : I64) : Commute (.assign c .band a) (.assign c .band b) :=
  commute_of_upd _ _ fun _ x => right_comm (f := (· &&& ·)) BitVec.and_assoc BitVec.and_comm x a b
theorem commute_or_or (c : Nat) (a b : I64) : Commute (.assign c .bor a) (.assign c .bor b) :=
  commute_of_upd _ _ fun _ x => right_comm (f := (· ||| ·)) BitVec.or_assoc BitVec.or_comm x a b
theorem commute_xor_xor (c : Nat) (a b : I64) : Commute (.assign c .xor a) (.assign c .xor b) :=
  commute_of_upd _ _ fun _ x => right_comm (f := (· ^^^ ·)) BitVec.xor_assoc BitVec.xor_comm x a b

/-- `/= 1`, `<<= 0`, `>>= 0` leave every value as it is (they go through `try_exec`) -/
theorem div_one_id (x : I64) : AOp.apply .div x 1#64 = .ok x := by
  simp [AOp.apply, AOp.scalar, Gen.divide, IntOp.interp, firstError, Guard.holds, IntExpr.eval, BitVec.sdiv_one]
theorem shl_zero_id (x : I64) : AOp.apply .shl x 0#64 = .ok x := by
  simp [AOp.apply, AOp.scalar, Gen.lshift, IntOp.interp, firstError, Guard.holds, IntExpr.eval, BitVec.slt]
theorem shr_zero_id (x : I64) : AOp.apply .shr x 0#64 = .ok x := by
  simp [AOp.apply, AOp.scalar, Gen.rshift, IntOp.interp, firstError, Guard.holds, IntExpr.eval, BitVec.slt]

/-- so `k` threads doing `c += 1` next to threads doing `c /= 1`, `c <<= 0`, `c >>= 0` still add exactly -/
theorem commute_add_div_one (c : Nat) (a : I64) : Commute (.assign c .div 1#64) (.assign c .add a) :=
  commute_of_upd _ _ fun _ x => by simp only [upd, out, div_one_id]

/-- `+=` and `*=` do NOT commute: mixed families are judged against the set of interleavings -/
example : ¬ Commute (.assign 0 .add 1#64) (.assign 0 .mul 2#64) := fun h =>
  absurd (congrFun (h (fun _ => 0#64)) 0) (by decide)

theorem foldl_add_acc (ds : List I64) (acc : I64) : ds.foldl (· + ·) acc = acc + ds.foldl (· + ·) 0 := by
  induction ds generalizing acc with
  | nil => simp
  | cons e es ihe => simp only [List.foldl_cons]; rw [ihe (acc + e), ihe (0 + e)]; simp [BitVec.add_assoc]

theorem foldl_add (c : Nat) (ds : List I64) (s : Store) :
    (ds.map (fun d => Op.assign c .add d)).foldl apply s c = s c + ds.foldl (· + ·) 0 := by
  induction ds generalizing s with
  | nil => simp
  | cons d ds ih =>
    simp only [List.map_cons, List.foldl_cons]
    rw [ih, apply_eq, foldl_add_acc ds (0 + d)]
    simp [Store.set, Op.cell, upd, out, apply_total, BitVec.add_assoc]

theorem todoAll_init (s : Store) (progs : List (List Op)) : todoAll (Cfg.init s progs).threads = progs.flatten := by
  simp only [Cfg.init, todoAll, List.flatMap_map]
  induction progs with
  | nil => rfl
  | cons p ps ih => simp [List.flatMap_cons, ih]

theorem allOk_init (s : Store) (progs : List (List Op)) (h : ∀ p ∈ progs, ∀ op ∈ p, Op.total op = true) :
    AllOk (Cfg.init s progs) := by
  intro t ht
  simp only [Cfg.init, List.mem_map] at ht
  obtain ⟨p, hp, rfl⟩ := ht
  exact ⟨fun o ho => (nomatch ho), h p hp⟩

/-- **increments are never lost**: threads that only do `c += d` (any `d`s, any number each),
    run under any complete schedule, leave `c` at its initial value plus the sum of all `d`s -/
theorem increments_exact (s : Store) (c : Nat) (progs : List (List I64)) (sched : List Nat)
    (hf : ((Cfg.init s (progs.map (·.map (fun d => Op.assign c .add d)))).run sched).finished = true) :
    ((Cfg.init s (progs.map (·.map (fun d => Op.assign c .add d)))).run sched).store c =
      s c + progs.flatten.foldl (· + ·) 0 := by
  have hall : todoAll (Cfg.init s (progs.map (·.map (fun d => Op.assign c .add d)))).threads =
      progs.flatten.map (fun d => Op.assign c .add d) := by
    rw [todoAll_init, List.map_flatten]
  have hok : AllOk (Cfg.init s (progs.map (·.map (fun d => Op.assign c .add d)))) := by
    refine allOk_init s _ fun p hp op hop => ?_
    obtain ⟨q, _, rfl⟩ := List.mem_map.mp hp
    obtain ⟨d, _, rfl⟩ := List.mem_map.mp hop
    rfl
  rw [schedule_independent _ sched hok ?_ hf, hall]
  · exact foldl_add c progs.flatten s
  · intro a ha b hb
    rw [hall] at ha hb
    simp only [List.mem_map] at ha hb
    obtain ⟨d1, _, rfl⟩ := ha
    obtain ⟨d2, _, rfl⟩ := hb
    exact commute_add_add c d1 d2

/-- non-vacuity: two threads of two increments each, one particular interleaving -/
example : ((Cfg.init (fun _ => 10#64) [[.assign 0 .add 1#64, .assign 0 .add 1#64],
    [.assign 0 .add 1#64, .assign 0 .add 1#64]]).run [0, 1, 1, 0]).store 0 = 14#64 := by decide

/-! ## a thread whose cells nobody else touches runs as if alone -/

theorem step_congr (S : Nat → Prop) (op : Op) (s1 s2 : Store) (hc : S op.cell)
    (hag : ∀ k, S k → s1 k = s2 k) :
    (step s1 op).2 = (step s2 op).2 ∧ ∀ k, S k → (step s1 op).1 k = (step s2 op).1 k := by
  rw [step_eq, step_eq, hag _ hc]
  refine ⟨rfl, fun k hk => ?_⟩
  simp only [Store.set]
  split
  · rfl
  · exact hag k hk

theorem solo_succ (s : Store) (t : Thread) (n : Nat) :
    solo s t (n + 1) = (solo s t n).1.advance (solo s t n).2 := by
  induction n generalizing s t with
  | zero => rfl
  | succ n ih => exact ih (t.advance s).2 (t.advance s).1

/-- the premises of the theorem below, as one invariant of the configuration -/
def Private (c : Cfg) (i : Nat) (S : Nat → Prop) : Prop :=
  ∀ j u, c.threads[j]? = some u → ∀ op ∈ u.todo, (j = i → S op.cell) ∧ (j ≠ i → ¬ S op.cell)

theorem pick_private (c : Cfg) (i j : Nat) (S : Nat → Prop) (h : Private c i S) : Private (c.pick j) i S := by
  rcases pick_cases c j with e | ⟨t, op, rest, hj, ht, _, e⟩ <;> rw [e]
  · exact h
  · intro k u hk o ho
    by_cases hkj : k = j
    · subst hkj
      have hlt : k < c.threads.length := (List.getElem?_eq_some_iff.mp hj).1
      simp [hlt] at hk
      subst hk
      exact h k t hj o (ht ▸ List.mem_cons_of_mem _ ho)
    · simp [Ne.symm hkj] at hk
      exact h k u hk o ho

/-- what a scheduler choice does to thread `i` and its private cells, seen from a solo run that started at
    `(s0, t)`: thread `i` itself takes the next solo step, any other thread leaves both as they are -/
theorem pick_solo (c : Cfg) (i j : Nat) (S : Nat → Prop) (s0 : Store) (t : Thread) (hp : Private c i S)
    (h : ∃ n, c.threads[i]? = some (solo s0 t n).1 ∧ ∀ k, S k → c.store k = (solo s0 t n).2 k) :
    ∃ n, (c.pick j).threads[i]? = some (solo s0 t n).1 ∧ ∀ k, S k → (c.pick j).store k = (solo s0 t n).2 k := by
  obtain ⟨n, hi, hs⟩ := h
  rcases pick_cases c j with e | ⟨u, op, rest, hj, hu, hadv, e⟩ <;> rw [e]
  · exact ⟨n, hi, hs⟩
  · have hop := hp j u hj op (by simp [hu])
    by_cases hji : j = i
    · subst hji
      rw [hi] at hj; cases hj
      have hlt : j < c.threads.length := (List.getElem?_eq_some_iff.mp hi).1
      obtain ⟨g1, g2⟩ := step_congr S op c.store (solo s0 t n).2 (hop.1 rfl) hs
      exact ⟨n + 1, by rw [solo_succ, hadv, ← g1]; simp [hlt], fun k hk => by rw [solo_succ, hadv]; exact g2 k hk⟩
    · refine ⟨n, by simpa [List.getElem?_set, hji] using hi, fun k hk => ?_⟩
      rw [← hs k hk]
      exact apply_other c.store op k fun e => hop.2 hji (e ▸ hk)

/-- **private cells**: if no other thread ever touches the cells thread `i` works on, then under
    every schedule thread `i` — its remaining work, everything it has seen, and its cells — is
    exactly what running it alone for some number of steps gives (errors included) -/
theorem private_thread_sequential (sched : List Nat) : ∀ (c : Cfg) (i : Nat) (t : Thread) (S : Nat → Prop),
    c.threads[i]? = some t → Private c i S →
    ∃ n, (c.run sched).threads[i]? = some (solo c.store t n).1 ∧
      ∀ k, S k → (c.run sched).store k = (solo c.store t n).2 k := by
  intro c i t S hi hp
  exact (List.foldlRecOn (motive := fun c' => Private c' i S ∧
      ∃ n, c'.threads[i]? = some (solo c.store t n).1 ∧ ∀ k, S k → c'.store k = (solo c.store t n).2 k)
    sched Cfg.pick ⟨hp, 0, hi, fun _ _ => rfl⟩
    fun c' h j _ => ⟨pick_private c' i j S h.1, pick_solo c' i j S c.store t h.1 h.2⟩).2

/-! ## no deadlock (acquire / release made explicit) -/

/-- who holds what is consistent with the threads' phases, and nobody holds two guards -/
def MInv (c : MCfg) : Prop :=
  ∀ k i, c.owner k = some i →
    ∃ t op rest, c.threads[i]? = some t ∧ t.phase = .holding ∧ t.todo = op :: rest ∧ op.cell = k

theorem minv_step (c : MCfg) (i : Nat) (h : MInv c) : MInv (c.mstep i) := by
  unfold MCfg.mstep
  split
  · exact h
  · rename_i hen
    cases hi : c.threads[i]? with
    | none => exact h
    | some t =>
      have hlt : i < c.threads.length := (List.getElem?_eq_some_iff.mp hi).1
      simp only
      cases htodo : t.todo with
      | nil => cases hph : t.phase <;> simp <;> exact h
      | cons op rest =>
        -- a guard that thread `i` holds is the one of `op`, taken in phase `holding`; a guard another thread holds
        -- stays described by that thread's entry, which `set i` leaves alone
        have self : ∀ k, c.owner k = some i → t.phase = .holding ∧ op.cell = k := fun k hk => by
          obtain ⟨u, o, r, hu, hph', hto, hc⟩ := h k i hk
          rw [hi] at hu; cases hu
          rw [htodo] at hto; cases hto
          exact ⟨hph', hc⟩
        have other : ∀ t' k j, c.owner k = some j → j ≠ i → ∃ u o r, (c.threads.set i t')[j]? = some u ∧
            u.phase = .holding ∧ u.todo = o :: r ∧ o.cell = k := fun t' k j hk hji => by
          obtain ⟨u, o, r, hu, rest⟩ := h k j hk
          exact ⟨u, o, r, by simp [Ne.symm hji, hu], rest⟩
        cases hph : t.phase with
        | idle =>
          simp only
          intro k j hk
          simp only at hk
          by_cases hkc : k = op.cell
          · simp [hkc] at hk
            subst hk
            exact ⟨{ t with phase := .holding }, op, rest, by simp [hlt, htodo], rfl, by simp [htodo], hkc.symm⟩
          · simp [hkc] at hk
            exact other _ k j hk fun e => by rw [(self k (e ▸ hk)).1] at hph; cases hph
        | holding =>
          simp only
          intro k j hk
          simp only at hk
          by_cases hkc : k = op.cell
          · simp [hkc] at hk
          · simp [hkc] at hk
            exact other _ k j hk fun e => hkc (self k (e ▸ hk)).2.symm

def MCfg.init (s : Store) (progs : List (List Op)) : MCfg :=
  { store := s, owner := fun _ => none, threads := progs.map fun p => { todo := p, phase := .idle } }

theorem minv_init (s : Store) (progs : List (List Op)) : MInv (MCfg.init s progs) := by
  intro k i h; simp [MCfg.init] at h

/-- **no deadlock**: in every configuration reachable by micro-steps from a start configuration,
    either every thread is through or some thread can take a step -/
theorem no_deadlock (s : Store) (progs : List (List Op)) (sched : List Nat) :
    let c := sched.foldl MCfg.mstep (MCfg.init s progs)
    c.done = true ∨ ∃ i, c.enabled i = true := by
  intro c
  have hinv : MInv c := List.foldlRecOn sched MCfg.mstep (minv_init s progs) fun c h i _ => minv_step c i h
  by_cases hd : c.done = true
  · exact Or.inl hd
  · right
    simp only [MCfg.done, List.all_eq_true, Classical.not_forall] at hd
    obtain ⟨t, ht, hne⟩ := hd
    obtain ⟨i, hlt, hget⟩ := List.getElem_of_mem ht
    have hi : c.threads[i]? = some t := by simp [List.getElem?_eq_getElem hlt, hget]
    cases htodo : t.todo with
    | nil => simp [htodo] at hne
    | cons op rest =>
      cases hph : t.phase with
      | holding => exact ⟨i, by simp [MCfg.enabled, hi, htodo, hph]⟩
      | idle =>
        cases ho : c.owner op.cell with
        | none => exact ⟨i, by simp [MCfg.enabled, hi, htodo, hph, ho]⟩
        | some j =>
          obtain ⟨u, o, r, hu, hph', hto, _⟩ := hinv op.cell j ho
          exact ⟨j, by simp [MCfg.enabled, hu, hto, hph']⟩

/-- non-vacuity: two threads contending for one cell, stopped while thread 0 holds the guard -/
example : (([0, 1, 0].foldl MCfg.mstep (MCfg.init (fun _ => 0#64)
    [[.assign 0 .add 1#64], [.assign 0 .add 1#64]])).threads.map (·.todo.length)) = [0, 1] := by decide

end Ssl.C16
