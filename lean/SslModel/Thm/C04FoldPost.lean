import SslModel.Model.Fold
import SslModel.Lemmas.NoCtl
import SslModel.Thm.C04
/-!
# C04 — what the folding pass answers

Facts about the model of the pass alone (`Model/Fold.lean`), no evaluation involved: what the three operator rules
answer (`foldPre_ok`, `foldBin_ok`, `foldAt_ok`), and ONE traversal of the six folding functions, `fold_post`, for what
holds of every answer: a folded expression is never a declaration (`fold_notDecl`), and an `ExecError` reported at parse
time was produced by one of the three rules that may fail (`fold_err` ... `foldProgram_error_source`), each of which fails
only where the operation fails whenever it is evaluated (`foldBin_error_justified`, `foldAt_error_justified`).
-/
namespace Ssl.Fold
open Ssl Ssl.Spec

/-! `>>=` of the folding monad `R = Except FErr`, read backwards (the evaluator's `bind_ok` / `bind_error` of `Spec` go
    forwards) -/

theorem R.bind_ok {α β} {x : R α} {k : α → R β} {b : β} (h : (x >>= k) = .ok b) :
    ∃ a, x = .ok a ∧ k a = .ok b := by
  cases x with
  | error e => simp [bind, Except.bind] at h
  | ok a => exact ⟨a, rfl, h⟩

theorem R.bind_err {α β} {x : R α} {k : α → R β} {e : FErr} (h : (x >>= k) = .error e) :
    x = .error e ∨ ∃ a, x = .ok a ∧ k a = .error e := by
  cases x with
  | error e' => left; simpa [bind, Except.bind] using h
  | ok a => exact Or.inr ⟨a, rfl, h⟩

mutual
theorem exprOfVal_sound : ∀ (v : Val) (r : Expr), exprOfVal v = some r → isConst r = true ∧ valOf r = v
  | .bool _, r, h | .float _, r, h | .str _, r, h | .unit, r, h => by
    simp only [exprOfVal, Option.some.injEq] at h; subst h; simp [isConst, valOf]
  | .int i, r, h => by
    simp only [exprOfVal, Option.some.injEq] at h; subst h
    simp only [isConst, valOf, BitVec.ofInt_toInt, and_self]
  | .tup vs, r, h => by
    simp only [exprOfVal, Option.map_eq_some_iff] at h
    obtain ⟨es, hes, rfl⟩ := h
    have := exprOfValL_sound vs es hes
    simp only [isConst, valOf, this.1, this.2, and_self]
  | .arr _ _, r, h | .struct _, r, h | .cell _ _, r, h | .fn .., r, h => by simp [exprOfVal] at h
theorem exprOfValL_sound : ∀ (vs : List Val) (es : List Expr), exprOfValL vs = some es →
    isConstL es = true ∧ valOfL es = vs
  | [], es, h => by simp only [exprOfValL, Option.some.injEq] at h; subst h; simp [isConstL, valOfL]
  | v :: vs, es, h => by
    simp only [exprOfValL] at h
    split at h
    · next e es' he hes =>
      simp only [Option.some.injEq] at h; subst h
      have h1 := exprOfVal_sound v e he
      have h2 := exprOfValL_sound vs es' hes
      simp only [isConstL, valOfL, h1.1, h1.2, h2.1, h2.2, Bool.and_self, and_self]
    · simp at h
end

theorem ofExec_ok {r : Except Sig Val} {e : Expr} (h : ofExec r = .ok e) :
    ∃ v, r = .ok v ∧ isConst e = true ∧ valOf e = v := by
  unfold ofExec at h
  split at h
  · next v =>
    split at h
    · next e' he =>
      simp only [Except.ok.injEq] at h; subst h
      exact ⟨v, rfl, exprOfVal_sound v _ he⟩
    · simp [unsup] at h
  · simp at h
  · simp [unsup] at h

theorem ofExec_err {r : Except Sig Val} {err : ExecErr} (h : ofExec r = .error (.exec err)) : r = .error (.err err) := by
  unfold ofExec at h
  split at h
  · split at h <;> simp [unsup] at h
  · next e => simp only [Except.error.injEq, FErr.exec.injEq] at h; subst h; rfl
  · simp [unsup] at h

theorem valOfL_eq_map : ∀ (es : List Expr), valOfL es = es.map valOf
  | [] => by simp only [valOfL, List.map_nil]
  | e :: es => by simp only [valOfL, List.map_cons, valOfL_eq_map es]

theorem isConstL_eq_all : ∀ (es : List Expr), isConstL es = es.all isConst
  | [] => by simp only [isConstL, List.all_nil]
  | e :: es => by simp only [isConstL, List.all_cons, isConstL_eq_all es]

theorem isConstL_get (es : List Expr) (j : Nat) (c : Expr) (h : isConstL es = true) (hj : es[j]? = some c) :
    isConst c = true := by
  rw [isConstL_eq_all, List.all_eq_true] at h
  exact h c (List.mem_of_getElem? hj)

theorem isDecl_of_const (c : Expr) (h : isConst c = true) : isDecl c = false := by
  cases c <;> first | rfl | cases h

theorem isConst_of_creationLit {s : Expr} (h : isCreationLit s = true) : isConst s = true := by
  cases s <;> first | (cases h; done) | rfl

theorem isDecl_ofExec {r : Except Sig Val} {e : Expr} (h : ofExec r = .ok e) : isDecl e = false := by
  obtain ⟨_, _, hc, _⟩ := ofExec_ok h
  exact isDecl_of_const _ hc

/-- the error was produced by one of the three folding rules that may fail, applied to folded operands -/
inductive RuleErr (err : ExecErr) : Prop where
  | bin (op : BinOp) (a' b' : Expr) (h : foldBin op a' b' = .error (.exec err))
  | idx (a' i' : Expr) (h : foldAt a' i' = .error (.exec err))
  | rep (k : Int) (h : i64 k < 0) (he : err = .NegativeLength)

theorem foldPre_no_exec_err (op : PreOp) (e' : Expr) (err : ExecErr) (h : foldPre op e' = .error (.exec err)) : False := by
  unfold foldPre at h
  split at h
  · cases h
  · split at h
    · obtain ⟨_, hw⟩ := preScalar_wrong _ _ _ (ofExec_err h)
      cases hw
    · cases h

theorem foldPre_ok {op : PreOp} {e e' : Expr} (h : foldPre op e = .ok e') :
    (op ≠ .deref ∧ isConst e = true ∧ ofExec (preScalar op (valOf e)) = .ok e') ∨ e' = .pre op e := by
  unfold foldPre at h
  split at h
  · cases h; exact .inr rfl
  · next hop =>
    split at h
    · next hc => exact .inl ⟨fun h' => hop (h' ▸ rfl), hc, h⟩
    · cases h; exact .inr rfl

theorem foldPre_notDecl {op : PreOp} {e e' : Expr} (h : foldPre op e = .ok e') : isDecl e' = false := by
  rcases foldPre_ok h with ⟨_, _, h⟩ | rfl
  · exact isDecl_ofExec h
  · rfl

theorem foldBin_ok {op : BinOp} {a b e' : Expr} (h : foldBin op a b = .ok e') :
    (foldsConst op = true ∧ isConst a = true ∧ isConst b = true ∧
      ofExec (binScalar op (valOf a) (valOf b)) = .ok e') ∨ e' = .bin op a b := by
  unfold foldBin at h
  split at h
  · next hcc => simp only [Bool.and_eq_true] at hcc; exact .inl ⟨hcc.1.1, hcc.1.2, hcc.2, h⟩
  · right; split at h <;> (try split at h) <;> first | (cases h; rfl) | (cases h; done)

theorem foldAt_ok {a i e' : Expr} (h : foldAt a i = .ok e') :
    (∃ es k j, a = .array es ∧ i = .litInt k ∧ isConstL es = true ∧ Seq.atIdx es.length (i64 k) = some j ∧
      es[j]? = some e') ∨
    (∃ s k, a = .litStr s ∧ i = .litInt k ∧ ofExec (atVal (.str s) (.int (BitVec.ofInt 64 k))) = .ok e') ∨
    e' = .at a i := by
  unfold foldAt at h
  split at h
  · next es k =>
    split at h
    · next hcl =>
      split at h
      · next j hj =>
        split at h
        · next c hcj => cases h; exact .inl ⟨es, k, j, rfl, rfl, hcl, hj, hcj⟩
        · cases h
      · cases h
    · split at h <;> cases h
      exact .inr (.inr rfl)
  · next s k => exact .inr (.inl ⟨s, k, rfl, rfl, h⟩)
  · cases h; exact .inr (.inr rfl)

theorem foldBin_notDecl {op : BinOp} {a b e' : Expr} (h : foldBin op a b = .ok e') : isDecl e' = false := by
  rcases foldBin_ok h with ⟨_, _, _, h⟩ | rfl
  · exact isDecl_ofExec h
  · rfl

theorem foldAt_notDecl {a i e' : Expr} (h : foldAt a i = .ok e') : isDecl e' = false := by
  rcases foldAt_ok h with ⟨es, _, j, _, _, hcl, _, hcj⟩ | ⟨_, _, _, _, h⟩ | rfl
  · exact isDecl_of_const _ (isConstL_get es j _ hcl hcj)
  · exact isDecl_ofExec h
  · rfl

/-! The overlapping arms of the pass, stated once under the condition that selects the later arm. -/

theorem fold_var_eq (g : CEnv) (x : String) :
    fold g (.var x) = (match g.lookup x with
      | some (some c, _) => .ok c
      | _ => .ok (.var x)) := rfl

theorem foldSeq_plain_eq (blk : Bool) (g : CEnv) (s : Expr) (rest : List Expr) (h : isDecl s = false) :
    foldSeq blk g (s :: rest) =
      if blk && !rest.isEmpty && crConst g s then foldSeq blk g rest
      else (do
        let s' ← fold g s
        let (rest', g') ← foldSeq blk g rest
        .ok (s' :: rest', g')) := by
  cases s <;> first | rfl | cases h

theorem fold_slice_eq (g : CEnv) (a : Expr) (s e st : Option Expr) (h : (s.isNone && e.isNone && st.isNone) = false) :
    fold g (.slice a s e st) = (do
      let a' ← fold g a
      let s' ← foldOpt g s
      let e' ← foldOpt g e
      let st' ← foldOpt g st
      .ok (.slice a' s' e' st')) := by
  cases s <;> cases e <;> cases st <;> first | (cases h; done) | rfl

/-- what a folding function may answer: a result satisfying `P`, `unsup`, or an `ExecErr` that one of the three
    failing rules produced -/
def RPost {α} (x : R α) (P : α → Prop) : Prop :=
  (∀ a, x = .ok a → P a) ∧ ∀ err, x = .error (.exec err) → RuleErr err

theorem RPost.ok {α} {P : α → Prop} {a : α} (h : P a) : RPost (.ok a) P :=
  ⟨fun _ he => by cases he; exact h, fun _ he => (nomatch he)⟩

theorem RPost.unsup {α} {P : α → Prop} (w : String) : RPost (unsup w) P :=
  ⟨fun _ he => (nomatch he), fun _ he => (nomatch he)⟩

theorem RPost.bind {α β} {x : R α} {k : α → R β} {Q : α → Prop} {P : β → Prop} (hx : RPost x Q)
    (hk : ∀ a, RPost (k a) P) : RPost (x >>= k) P := by
  constructor
  · intro b h
    obtain ⟨a, _, h⟩ := R.bind_ok h
    exact (hk a).1 b h
  · intro err h
    rcases R.bind_err h with h | ⟨a, _, h⟩
    · exact hx.2 err h
    · exact (hk a).2 err h

theorem RPost.mono {α} {x : R α} {P Q : α → Prop} (h : RPost x P) (hpq : ∀ a, P a → Q a) : RPost x Q :=
  ⟨fun a he => hpq a (h.1 a he), h.2⟩

/-- a negative constant length, the one failing rule that is no operator of its own -/
theorem RPost.rep {α} {P : α → Prop} (k : Int) (h : i64 k < 0) : RPost (.error (.exec .NegativeLength) : R α) P :=
  ⟨fun _ he => (nomatch he), fun _ he => by cases he; exact .rep k h rfl⟩

theorem RPost.foldPre (op : PreOp) (e : Expr) : RPost (foldPre op e) (fun e' => isDecl e' = false) :=
  ⟨fun _ h => foldPre_notDecl h, fun err h => (foldPre_no_exec_err op e err h).elim⟩

theorem RPost.foldBin (op : BinOp) (a b : Expr) : RPost (foldBin op a b) (fun e' => isDecl e' = false) :=
  ⟨fun _ h => foldBin_notDecl h, fun _ h => .bin op a b h⟩

theorem RPost.foldAt (a i : Expr) : RPost (foldAt a i) (fun e' => isDecl e' = false) :=
  ⟨fun _ h => foldAt_notDecl h, fun _ h => .idx a i h⟩

attribute [local irreducible] RPost

def GConst (g : CEnv) : Prop := ∀ x c cr, g.lookup x = some (some c, cr) → isConst c = true

/- One traversal of the pass for the facts about its answers.  Every arm applies the rules above along the binds of the
   function's equation for that form (the goal unfolds to it); `fun _` discards a folded operand, the last `.ok` is the
   rebuilt node (no declaration: `fun _ => rfl`), a list (`trivial`) or a statement list with its first statement kept. -/
mutual
theorem fold_post : ∀ (e : Expr) (g : CEnv), RPost (fold g e) (fun e' => GConst g → isDecl e' = false)
  | .litBool _, g | .litInt _, g | .litFloat _, g | .litStr _, g | .litUnit, g | .brk, g | .cont, g =>
    .ok fun _ => rfl
  | .var x, g => by
    rw [fold_var_eq]
    split
    · next c cr hl => exact .ok fun hg => isDecl_of_const _ (hg x _ cr hl)
    · exact .ok fun _ => rfl
  | .array es, g | .tuple es, g =>
    .bind (foldList_post es g) fun _ => .ok fun _ => rfl
  | .arrayRepeat v n, g => by
    refine .bind (fold_post v g) fun _ => .bind (fold_post n g) fun _ => ?_
    split
    · next k =>
      split
      · next hk => exact .rep k hk
      · split
        · exact .unsup _
        · exact .ok fun _ => rfl
    · exact .ok fun _ => rfl
  | .struct fs, g => .bind (foldFields_post fs g) fun _ => .ok fun _ => rfl
  | .mutE _ a, g | .tacc a _, g | .facc a _, g | .tfilter a _, g | .post _ a, g | .loop a, g =>
    .bind (fold_post a g) fun _ => .ok fun _ => rfl
  | .pre _ a, g => .bind (fold_post a g) fun _ => .mono (.foldPre _ _) fun _ h _ => h
  | .and a b, g | .or a b, g => by
    refine .bind (fold_post a g) fun _ => ?_
    split
    · first | exact fold_post b g | exact .ok fun _ => rfl
    · first | exact fold_post b g | exact .ok fun _ => rfl
    · split
      · exact .unsup _
      · exact .bind (fold_post b g) fun _ => .ok fun _ => rfl
  | .bin _ a b, g =>
    .bind (fold_post a g) fun _ => .bind (fold_post b g) fun _ =>
      .mono (.foldBin _ _ _) fun _ h _ => h
  | .assign _ a b, g =>
    .bind (fold_post a g) fun _ => .bind (fold_post b g) fun _ => .ok fun _ => rfl
  | .at a b, g =>
    .bind (fold_post a g) fun _ => .bind (fold_post b g) fun _ =>
      .mono (.foldAt _ _) fun _ h _ => h
  | .slice a s e st, g => by
    by_cases h : (s.isNone && e.isNone && st.isNone) = false
    · rw [fold_slice_eq _ _ _ _ _ h]
      exact .bind (fold_post a g) fun _ => .bind (foldOpt_post s g) fun _ => .bind (foldOpt_post e g) fun _ =>
        .bind (foldOpt_post st g) fun _ => .ok fun _ => rfl
    · cases s <;> cases e <;> cases st <;> first | (exact absurd rfl h) | (exact fold_post a g)
  | .call f args, g =>
    .bind (fold_post f g) fun _ => .bind (foldList_post args g) fun _ => .ok fun _ => rfl
  | .reduce a b c, g =>
    .bind (fold_post a g) fun _ => .bind (fold_post b g) fun _ => .bind (fold_post c g) fun _ =>
      .ok fun _ => rfl
  | .block body, g => .bind (foldSeq_post body true g) fun _ => .ok fun _ => rfl
  | .ifElse c t e, g => by
    cases e <;> simp only [fold] <;> refine .bind (fold_post c g) fun _ => ?_ <;> split
    all_goals first
      | exact fold_post _ g
      | exact .ok fun _ => rfl
      | exact .bind (fold_post t g) fun _ => .bind (foldOpt_post _ g) fun _ => .ok fun _ => rfl
  | .ifSet x _ e body els, g =>
    .bind (fold_post e g) fun _ => .bind (fold_post body _) fun _ => .bind (foldOpt_post els g) fun _ =>
      .ok fun _ => rfl
  | .matchE e arms, g =>
    .bind (fold_post e g) fun _ => .bind (foldArms_post arms g) fun _ => .ok fun _ => rfl
  | .ret e, g => .bind (foldOpt_post e g) fun _ => .ok fun _ => rfl
  | .while c body, g => by
    show RPost (if crConst g c then _ else _) _
    split <;> refine .bind (fold_post c g) fun _ => ?_ <;> split
    all_goals first
      | exact .bind (fold_post body g) fun _ => .ok fun _ => rfl
      | exact .ok fun _ => rfl
      | exact .unsup _
  | .whileSet _ _ e body, g | .forE _ e body, g =>
    .bind (fold_post e g) fun _ => .bind (fold_post body _) fun _ => .ok fun _ => rfl
  | .fn ps _ body, g => .bind (foldSeq_post body true _) fun _ => .ok fun _ => rfl
  | .modE .., g | .set .., g | .destruct .., g | .fndecl .., g | .native _, g =>
    .unsup _
theorem foldOpt_post : ∀ (e : Option Expr) (g : CEnv), RPost (foldOpt g e) (fun _ => True)
  | none, _ => .ok trivial
  | some e, g => .bind (fold_post e g) fun _ => .ok trivial
theorem foldList_post : ∀ (es : List Expr) (g : CEnv), RPost (foldList g es) (fun _ => True)
  | [], _ => .ok trivial
  | e :: es, g =>
    .bind (fold_post e g) fun _ => .bind (foldList_post es g) fun _ => .ok trivial
theorem foldFields_post : ∀ (fs : List (String × Expr)) (g : CEnv), RPost (foldFields g fs) (fun _ => True)
  | [], _ => .ok trivial
  | (_, e) :: es, g =>
    .bind (fold_post e g) fun _ => .bind (foldFields_post es g) fun _ => .ok trivial
theorem foldArms_post : ∀ (arms : List Arm) (g : CEnv), RPost (foldArms g arms) (fun _ => True)
  | [], _ => .ok trivial
  | .ty _ _ b :: rest, g =>
    .bind (fold_post b _) fun _ => .bind (foldArms_post rest g) fun _ => .ok trivial
  | .val cs b :: rest, g =>
    .bind (foldList_post cs g) fun _ => .bind (fold_post b g) fun _ => .bind (foldArms_post rest g) fun _ =>
      .ok trivial
  | .other b :: rest, g =>
    .bind (fold_post b g) fun _ => .bind (foldArms_post rest g) fun _ => .ok trivial
theorem foldSeq_post : ∀ (ss : List Expr) (blk : Bool) (g : CEnv),
    RPost (foldSeq blk g ss) (fun r => ss ≠ [] → r.1 ≠ [])
  | [], blk, g => .ok fun h => absurd rfl h
  | s :: rest, blk, g => by
    by_cases hd : isDecl s = false
    · rw [foldSeq_plain_eq _ _ _ _ hd]
      split
      · next hdrop =>
        -- a dropped statement is not the last one
        simp only [Bool.and_eq_true, Bool.not_eq_true', List.isEmpty_eq_false_iff] at hdrop
        exact (foldSeq_post rest blk g).mono fun _ h _ => h hdrop.1.2
      · exact .bind (fold_post s g) fun _ => .bind (foldSeq_post rest blk g) fun _ => .ok fun _ => List.cons_ne_nil _ _
    · cases s
      case set _ e | destruct _ e =>
        exact .bind (fold_post e g) fun _ => .bind (foldSeq_post rest blk _) fun _ => .ok fun _ => List.cons_ne_nil _ _
      case fndecl x ps r body =>
        exact .bind (foldSeq_post body true _) fun _ => .bind (foldSeq_post rest blk _) fun _ =>
          .ok fun _ => List.cons_ne_nil _ _
      all_goals exact absurd rfl hd
end

theorem RPost.ok_of {α} {x : R α} {P : α → Prop} (h : RPost x P) {a : α} (he : x = .ok a) : P a := by
  unfold RPost at h; exact h.1 a he

theorem RPost.err_of {α} {x : R α} {P : α → Prop} (h : RPost x P) {err : ExecErr} (he : x = .error (.exec err)) :
    RuleErr err := by
  unfold RPost at h; exact h.2 err he

theorem fold_notDecl : ∀ (e : Expr) (g : CEnv) (e' : Expr), GConst g → fold g e = .ok e' → isDecl e' = false :=
  fun e g _ hg h => (fold_post e g).ok_of h hg

/-- the last statement is never dropped -/
theorem foldSeq_ne_nil (ss : List Expr) (blk : Bool) (g : CEnv) (ss' : List Expr) (g' : CEnv) (hne : ss ≠ [])
    (hf : foldSeq blk g ss = .ok (ss', g')) : ss' ≠ [] :=
  (foldSeq_post ss blk g).ok_of hf hne

/-! ## the errors the pass reports at parse time are errors the operation raises whenever it is evaluated -/

theorem ofInt_eq_zero_of_i64 (k : Int) (h : i64 k = 0) : BitVec.ofInt 64 k = 0#64 := by
  unfold i64 at h
  apply BitVec.eq_of_toInt_eq
  rw [h]; rfl

/-- a binary operator: with two constant operands the reported error is the operator's own answer on them; with a
    constant right operand only (`x / 0`, `x % 0`, a shift outside 0..=63) it is the answer for EVERY int on the left -/
theorem foldBin_error_justified (op : BinOp) (a' b' : Expr) (err : ExecErr)
    (h : foldBin op a' b' = .error (.exec err)) :
    (isConst a' = true ∧ isConst b' = true ∧ binScalar op (valOf a') (valOf b') = .error (.err err)) ∨
    (∀ x : I64, binScalar op (.int x) (valOf b') = .error (.err err)) := by
  unfold foldBin at h
  split at h
  · next hcc =>
    simp only [Bool.and_eq_true] at hcc
    exact Or.inl ⟨hcc.1.2, hcc.2, ofExec_err h⟩
  · right
    intro x
    split at h
    · next k _ =>
      split at h
      · next hk => cases h; simp only [valOf, ofInt_eq_zero_of_i64 k hk]; exact (C04.division_by_constant_zero x).1
      · cases h
    · next k _ =>
      split at h
      · next hk => cases h; simp only [valOf, ofInt_eq_zero_of_i64 k hk]; exact (C04.division_by_constant_zero x).2
      · cases h
    · next k _ =>
      split at h
      · next hk => cases h; simp only [valOf]; exact (C04.shift_by_constant_out_of_range x _ hk).1
      · cases h
    · next k _ =>
      split at h
      · next hk => cases h; simp only [valOf]; exact (C04.shift_by_constant_out_of_range x _ hk).2
      · cases h
    · cases h

/-- indexing: the reported error is `IndexOutOfBounds`, and indexing ANY array of that many elements (any string
    equal to the constant one) with that constant fails with it -/
theorem foldAt_error_justified (a' i' : Expr) (err : ExecErr) (h : foldAt a' i' = .error (.exec err)) :
    (∃ es k, a' = .array es ∧ i' = .litInt k ∧
      ∀ (t : Ty) (vs : List Val), vs.length = es.length →
        atVal (.arr t vs) (.int (BitVec.ofInt 64 k)) = .error (.err err)) ∨
    (∃ s k, a' = .litStr s ∧ i' = .litInt k ∧ atVal (.str s) (.int (BitVec.ofInt 64 k)) = .error (.err err)) := by
  unfold foldAt at h
  split at h
  · next es k =>
    left
    refine ⟨es, k, rfl, rfl, fun t vs hl => ?_⟩
    split at h
    · split at h
      · next j hj =>
        split at h
        · cases h
        · next hnone =>
          cases h
          have : vs[j]? = none := by
            rw [List.getElem?_eq_none_iff] at hnone ⊢; omega
          simp only [atVal, hl, show Seq.atIdx es.length (BitVec.ofInt 64 k).toInt = some j from hj, this]
      · next hnone =>
        cases h
        simp only [atVal, hl, show Seq.atIdx es.length (BitVec.ofInt 64 k).toInt = none from hnone]
    · split at h
      · cases h
      · next hr =>
        cases h
        exact C04.index_constant_out_of_range t vs _ (by rw [hl]; simpa only [i64] using hr)
  · next s k =>
    right
    exact ⟨s, k, rfl, rfl, ofExec_err h⟩
  · simp at h

/-! ### … and these rules are the only source of parse-time errors -/

theorem fold_err : ∀ (e : Expr) (g : CEnv) (err : ExecErr), fold g e = .error (.exec err) → RuleErr err :=
  fun e g _ h => (fold_post e g).err_of h
theorem foldOpt_err : ∀ (e : Option Expr) (g : CEnv) (err : ExecErr), foldOpt g e = .error (.exec err) → RuleErr err :=
  fun e g _ h => (foldOpt_post e g).err_of h
theorem foldList_err : ∀ (es : List Expr) (g : CEnv) (err : ExecErr), foldList g es = .error (.exec err) → RuleErr err :=
  fun e g _ h => (foldList_post e g).err_of h
theorem foldFields_err : ∀ (fs : List (String × Expr)) (g : CEnv) (err : ExecErr),
    foldFields g fs = .error (.exec err) → RuleErr err :=
  fun e g _ h => (foldFields_post e g).err_of h
theorem foldArms_err : ∀ (arms : List Arm) (g : CEnv) (err : ExecErr), foldArms g arms = .error (.exec err) → RuleErr err :=
  fun e g _ h => (foldArms_post e g).err_of h
/-- every `ExecError` the model reports for a whole program is produced by one of the three rules - and so (the
    `*_error_justified` theorems) is the answer of an operation on constant operands that fails whenever it is evaluated -/
theorem foldProgram_error_source (prog : List Expr) (err : ExecErr) (h : foldProgram prog = .error (.exec err)) :
    RuleErr err :=
  (RPost.bind (foldSeq_post prog false []) fun _ => .ok (P := fun _ => True) trivial).err_of h

end Ssl.Fold
