import SslModel.Lemmas.SpecEq
/-!
# C11 — iterator operators equal their sequence definitions

Theorems about the reference semantics `Spec`, for **any** iterator value — array-derived or
user-written — described only by what its successive pulls return: `Pulls it n σ xs σ'` says that
pulling `it` repeatedly, starting in store `σ`, yields `x₁ … xₙ` (`(true, xᵢ)`), then reports
exhaustion (`(false, _)`), ending in store `σ'` (each pull may change the store: counters, captured
cells).  The eager consumers are then characterised exactly; the lazy ones (`@`, `?`, `? T`) are
shown to pull nothing when they are created (`~`: `eval_iter` in `Thm/C11Iter`).
-/
namespace Ssl.C11
open Ssl Ssl.Spec

theorem bind_def {α β} (m : M α) (k : α → M β) (σ : St) :
    (m >>= k) σ = (match m σ with
      | (.ok a, σ') => k a σ'
      | (.error e, σ') => (.error e, σ')) :=
  bindM_def m k σ

/-- `it` yields exactly `xs` and is then exhausted; the fuel index counts down one per pull,
    exactly as the consumers spend it -/
inductive Pulls (it : Val) : Nat → St → List Val → St → Prop where
  | done {f : Nat} {σ σ' : St} : pull f it σ = (.ok none, σ') → Pulls it (f + 1) σ [] σ'
  | more {f : Nat} {σ σ1 σ' : St} {x : Val} {xs : List Val} :
      pull f it σ = (.ok (some x), σ1) → Pulls it f σ1 xs σ' → Pulls it (f + 1) σ (x :: xs) σ'

/-! ## `it $]` is `[x₁ … xₙ]`; each element is pulled exactly once, in order -/

theorem collectGo_spec (it : Val) : ∀ (f : Nat) (σ σ' : St) (xs acc : List Val),
    Pulls it f σ xs σ' → collectGo f it acc σ = (.ok (acc.reverse ++ xs), σ') := by
  intro f σ σ' xs acc h
  induction h generalizing acc with
  | done hp => rw [collectGo_succ, bind_ok hp, List.append_nil]; rfl
  | more hp _ ih => rw [collectGo_succ, bind_ok hp]; exact (ih _).trans (by simp)

theorem collectGo_nil {it : Val} {f : Nat} {σ σ' : St} {xs : List Val} (h : Pulls it f σ xs σ') :
    collectGo f it [] σ = (.ok xs, σ') :=
  collectGo_spec it f σ σ' xs [] h

theorem collect_spec (f : Nat) (env : Env) (e : Expr) (σ σ1 σ' : St) (it : Val) (xs : List Val)
    (he : eval f env e σ = (.ok it, σ1)) (hp : Pulls it f σ1 xs σ') :
    eval (f + 1) env (.post .collect e) σ = (.ok (Val.mkArray xs), σ') := by
  simp only [eval, bind_def, he, collectGo_nil hp]; rfl

/-! ## the built-in reducers are left folds with the documented units -/

/-- left fold of a built-in operator over values, failing as soon as a step fails -/
def foldOp (op : BinOp) : Val → List Val → Except Sig Val
  | acc, [] => .ok acc
  | acc, x :: xs => match binScalar op acc x with
    | .ok a => foldOp op a xs
    | .error e => .error e

theorem reduceGo_builtin (it : Val) (op : BinOp) : ∀ (f : Nat) (σ σ' : St) (xs : List Val) (acc r : Val),
    Pulls it f σ xs σ' → foldOp op acc xs = .ok r →
    reduceGo f it acc (.inl op) σ = (.ok r, σ') := by
  intro f σ σ' xs acc r h
  induction h generalizing acc with
  | done hp =>
    intro hf
    simp only [foldOp] at hf; cases hf
    simp only [reduceGo, bind_def, hp]; rfl
  | more hp _ ih =>
    intro hf
    simp only [foldOp] at hf
    split at hf
    · next a ha =>
      simp only [reduceGo, bind_def, hp, liftE, ha]
      exact ih a hf
    · simp at hf

/-- `$+` on an int iterator: the fold of `+` from 0 (so `0` for the empty sequence) -/
theorem sum_int_spec (f : Nat) (env : Env) (e : Expr) (σ σ1 σ' : St) (it : Val) (xs : List Val) (r : Val)
    (he : eval f env e σ = (.ok it, σ1)) (ht : Ty.sub it.asType (tyIterOf .int) = true)
    (hp : Pulls it f σ1 xs σ') (hf : foldOp .add (.int 0) xs = .ok r) :
    eval (f + 1) env (.post .sum e) σ = (.ok r, σ') := by
  simp only [eval, bind_def, he, ht, if_true]
  exact reduceGo_builtin it .add f σ1 σ' xs (.int 0) r hp hf

theorem product_int_spec (f : Nat) (env : Env) (e : Expr) (σ σ1 σ' : St) (it : Val) (xs : List Val) (r : Val)
    (he : eval f env e σ = (.ok it, σ1)) (ht : Ty.sub it.asType (tyIterOf .int) = true)
    (hp : Pulls it f σ1 xs σ') (hf : foldOp .mul (.int 1) xs = .ok r) :
    eval (f + 1) env (.post .product e) σ = (.ok r, σ') := by
  simp only [eval, bind_def, he, ht, if_true]
  exact reduceGo_builtin it .mul f σ1 σ' xs (.int 1) r hp hf

/-- `$&`: fold of `&` from all-ones; `$|`: fold of `|` from 0 -/
theorem bitand_spec (f : Nat) (env : Env) (e : Expr) (σ σ1 σ' : St) (it : Val) (xs : List Val) (r : Val)
    (he : eval f env e σ = (.ok it, σ1)) (hp : Pulls it f σ1 xs σ')
    (hf : foldOp .band (.int (BitVec.ofInt 64 (-1))) xs = .ok r) :
    eval (f + 1) env (.post .bitand e) σ = (.ok r, σ') := by
  simp only [eval, bind_def, he]
  exact reduceGo_builtin it .band f σ1 σ' xs _ r hp hf

theorem bitor_spec (f : Nat) (env : Env) (e : Expr) (σ σ1 σ' : St) (it : Val) (xs : List Val) (r : Val)
    (he : eval f env e σ = (.ok it, σ1)) (hp : Pulls it f σ1 xs σ')
    (hf : foldOp .bor (.int 0) xs = .ok r) :
    eval (f + 1) env (.post .bitor e) σ = (.ok r, σ') := by
  simp only [eval, bind_def, he]
  exact reduceGo_builtin it .bor f σ1 σ' xs _ r hp hf

/-- the unit of each reducer for the empty sequence -/
theorem empty_sequence_units (op : BinOp) (u : Val) : foldOp op u [] = .ok u := rfl

/-! ## `$&&` / `$||` stop at the first deciding element -/

/-- pulls up to and including the first element equal to `!unit`; the rest is never pulled -/
inductive PullsUntil (it : Val) (unit : Bool) : Nat → St → Bool → St → Prop where
  | exhausted {f : Nat} {σ σ' : St} :
      pull f it σ = (.ok none, σ') → PullsUntil it unit (f + 1) σ unit σ'
  | decided {f : Nat} {σ σ' : St} :
      pull f it σ = (.ok (some (.bool (!unit))), σ') → PullsUntil it unit (f + 1) σ (!unit) σ'
  | skip {f : Nat} {σ σ1 σ' : St} {b : Bool} :
      pull f it σ = (.ok (some (.bool unit)), σ1) → PullsUntil it unit f σ1 b σ' →
      PullsUntil it unit (f + 1) σ b σ'

theorem boolGo_spec (it : Val) (unit : Bool) : ∀ (f : Nat) (σ σ' : St) (b : Bool),
    PullsUntil it unit f σ b σ' → boolGo f it unit σ = (.ok (.bool b), σ') := by
  intro f σ σ' b h
  induction h with
  | exhausted hp => rw [boolGo_succ, bind_ok hp]; rfl
  | decided hp => rw [boolGo_succ, bind_ok hp]; cases unit <;> rfl
  | skip hp _ ih => rw [boolGo_succ, bind_ok hp]; simp only [beq_self_eq_true, if_true]; exact ih

/-! ## the left fold with a user function: one call per element, in order -/

theorem reduce_step (f : Nat) (it acc g : Val) :
    reduceGo (f + 1) it acc (.inr g) = (do
      let x ← pull f it
      match x with
      | some x => do
        let acc' ← callFn f g [acc, x]
        reduceGo f it acc' (.inr g)
      | none => pure acc) :=
  reduceGo_succ f it acc (.inr g)

/-- partition: one pull, then one call of the predicate on that element, then the next pull -/
theorem partition_step (f : Nat) (it p : Val) (l r : List Val) :
    partitionGo (f + 1) it p l r = (do
      let x ← pull f it
      match x with
      | some x => do
        let c ← callFn f p [x]
        match c with
        | .bool true => partitionGo f it p (x :: l) r
        | _ => partitionGo f it p l (x :: r)
      | none => pure (l.reverse, r.reverse)) :=
  partitionGo_succ f it p l r

/-! ## `@`, `?`, `? T` are lazy: creating them pulls nothing and calls nothing -/

theorem map_is_lazy (f : Nat) (env : Env) (a b : Expr) (σ σ1 σ2 : St) (it g : Val) (r : Ty)
    (ha : eval f env a σ = (.ok it, σ1)) (hb : eval f env b σ1 = (.ok g, σ2))
    (hr : g.asType.returnType = some r) :
    eval (f + 1) env (.bin .map a b) σ =
      (.ok (.fn σ2.nextId [] (.tup [.bool, r]) mapBody
              [("func", it), ("mapper", g), ("default", (ofType r).getD .unit)] none),
       { σ2 with nextId := σ2.nextId + 1 }) := by
  simp only [eval, bind_def, ha, hb, hr]; rfl

theorem filter_is_lazy (f : Nat) (env : Env) (a b : Expr) (σ σ1 σ2 : St) (it g : Val) (r : Ty)
    (ha : eval f env a σ = (.ok it, σ1)) (hb : eval f env b σ1 = (.ok g, σ2))
    (hr : it.asType.returnType = some r) :
    eval (f + 1) env (.bin .filter a b) σ =
      (.ok (.fn σ2.nextId [] r filterBody [("func", it), ("predicate", g)] none),
       { σ2 with nextId := σ2.nextId + 1 }) := by
  simp only [eval, bind_def, ha, hb, hr]; rfl

theorem type_filter_is_lazy (f : Nat) (env : Env) (a : Expr) (t : Ty) (σ σ1 : St) (it : Val)
    (ha : eval f env a σ = (.ok it, σ1)) :
    eval (f + 1) env (.tfilter a t) σ =
      (.ok (.fn σ1.nextId [] (.tup [.bool, t]) (typeFilterBody t)
              [("iterator", it), ("default", (ofType t).getD .unit)] none),
       { σ1 with nextId := σ1.nextId + 1 }) := by
  simp only [eval, bind_def, ha]; rfl

/-- one pull of a mapped iterator is: one pull of the source, and — only if that yielded an
    element — one call of the mapper on it (`mapBody`, the closure text of bin_op/map.rs) -/
theorem map_body_shape : mapBody =
    [ .set "res" (.call (.var "func") []),
      .destruct ["con", "value"] (.var "res"),
      .ifElse (.pre .not (.var "con")) (.ret (some (.tuple [.litBool false, .var "default"]))) none,
      .ret (some (.tuple [.litBool true, .call (.var "mapper") [.var "value"]])) ] := rfl

end Ssl.C11
