import SslModel.Lemmas.Mono
/-!
# C05 — the reference semantics assigns a program at most one outcome

`Spec` is a function of the program, the environment, the store and the fuel, so for a fixed fuel
its answer is unique by construction.  What is proved here is that the fuel does not matter: two
runs of the same program from the same state with DIFFERENT amounts of fuel that both complete
(neither runs out of fuel) end in the same value and final environment, or the same error / signal,
and the same store — for whole statement lists, expressions and calls.  (Consequence of the fuel
monotonicity of all twenty evaluator functions, `Lemmas/Mono.lean`.)  The correspondence streams
compare the implementation with `Spec` run at one fixed fuel; these theorems are why the choice of
that fuel cannot change a verdict other than to `inconclusive`.
-/
namespace Ssl.C05
open Ssl Ssl.Spec

theorem agree_of_mono {α} {m : Nat → M α} (p : ∀ {f g}, MonoAt f g → LeM (m f) (m g)) (f g : Nat) (σ : St)
    (hf : ∀ σ', m f σ ≠ (.error .fuel, σ')) (hg : ∀ σ', m g σ ≠ (.error .fuel, σ')) : m f σ = m g σ := by
  rcases Nat.le_total f g with h | h
  · exact (((p (mono h)).apply σ).eq_of_not_fuel hf).symm
  · exact ((p (mono h)).apply σ).eq_of_not_fuel hg

/-- a program (statement list): the outcome does not depend on the fuel it was given -/
theorem program_outcome_unique (prog : List Expr) (env : Env) (σ : St) (f g : Nat)
    (hf : ∀ σ', evalSeq f env prog σ ≠ (.error .fuel, σ')) (hg : ∀ σ', evalSeq g env prog σ ≠ (.error .fuel, σ')) :
    evalSeq f env prog σ = evalSeq g env prog σ :=
  agree_of_mono (m := fun k => evalSeq k env prog) (·.evalSeq env prog) f g σ hf hg

theorem expr_outcome_unique (e : Expr) (env : Env) (σ : St) (f g : Nat)
    (hf : ∀ σ', eval f env e σ ≠ (.error .fuel, σ')) (hg : ∀ σ', eval g env e σ ≠ (.error .fuel, σ')) :
    eval f env e σ = eval g env e σ :=
  agree_of_mono (m := fun k => eval k env e) (·.eval env e) f g σ hf hg

/-- a call of a function value (the embedding API's `create_call` … `exec`) -/
theorem call_outcome_unique (fv : Val) (args : List Val) (σ : St) (f g : Nat)
    (hf : ∀ σ', callFn f fv args σ ≠ (.error .fuel, σ')) (hg : ∀ σ', callFn g fv args σ ≠ (.error .fuel, σ')) :
    callFn f fv args σ = callFn g fv args σ :=
  agree_of_mono (m := fun k => callFn k fv args) (·.callFn fv args) f g σ hf hg

theorem more_fuel_same_outcome (prog : List Expr) (env : Env) (σ : St) (f k : Nat)
    (hf : ∀ σ', evalSeq f env prog σ ≠ (.error .fuel, σ')) :
    evalSeq (f + k) env prog σ = evalSeq f env prog σ :=
  (((mono (Nat.le_add_right f k)).evalSeq env prog).apply σ).eq_of_not_fuel hf

example : ∀ σ', evalSeq 5 [[]] [.litInt 1] {} ≠ (.error .fuel, σ') := by
  intro σ' h; simp [evalSeq, evalStmt, eval, pure, bindM_def] at h

end Ssl.C05
