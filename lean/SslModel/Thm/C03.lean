import SslModel.Lemmas.TyQuery
import SslModel.Gen.Grammar
import SslModel.Gen.RuleUse
/-!
# C03 — parsing and checking is total

What is logic here, and is proved for ALL types (over the model of `src/variable/type.rs` whose
agreement with the implementation is checked by the `type` correspondence of C10):

* **guarded queries answer** — each static query the checker unwraps after an admissibility test
  does answer on every well-formed type that passes the test: `return_type` after `is_function`,
  `mut_element_type` / `mut_assign_type` after `is_mut`, `min_tuple_len`, `tuple_element_at`
  (below the minimal length) and — when `tuple_len` answers — `flatten_tuple` after `is_tuple`,
  `field_type` after `has_field`, `index_result` after `can_be_indexed` and `element_type` after
  `matches [any]` **except on the never type**, which passes every `matches`-based test and on
  which the queries answer `None` (`never_passes_but_unanswered`; the implementation panicked
  there until the fix recorded as F22 — the checker now also asks the query itself);
* **grammar rules used by the walking code exist and are not silent** — every `Rule::x` mentioned
  in the crate (regenerated list) is a rule of simplesl.pest (regenerated) that produces a pair;
  a silent rule never shows up as a pair, so a match arm on it is dead and the construct falls
  into `unexpected!` / `unreachable!` (this is how match value arms used to panic).

Everything else about this property — that no `unwrap`, `unreachable!`, slice index or arithmetic
in parser glue, instruction construction and folding can fire — is not modelled: it is searched by
the generated-input streams of tools/props/c03.py.
-/
namespace Ssl.C03
open Ssl Ssl.Ty

/-! ## structural tests: each guard says that every member answers (`query_isSome`) -/

/-- `x()` / `x(args)`: `return_type().unwrap()` after `is_function()` -/
theorem returnType_of_isFunction (t : Ty) (hw : wf t = true) (h : isFunction t = true) :
    (returnType t).isSome = true :=
  (query_isSome (fun m => by cases m <;> rfl) joinO_isSome hw).trans ((isFunction_eq t).symm.trans h)

/-- `*x`, `x = v`, `x op= v`: `mut_element_type().unwrap()` after `is_mut()` -/
theorem mutElementType_of_isMut (t : Ty) (hw : wf t = true) (h : isMut t = true) :
    (mutElementType t).isSome = true :=
  (query_isSome (fun m => by cases m <;> rfl) joinO_isSome hw).trans ((isMut_eq t).symm.trans h)

theorem mutAssignType_of_isMut (t : Ty) (h : isMut t = true) : (mutAssignType t).isSome = true := by
  cases t with
  | cell e => rfl
  | multi ms =>
    rw [mutAssignType_multi, foldlM_isSome (fun _ _ => rfl), ← h]
    exact congrArg (List.all ms) (funext fun m => by cases m <;> rfl)
  | _ => cases h

/-- `x.0`: `min_tuple_len().unwrap()` after `is_tuple()` -/
theorem minTupleLen_of_isTuple (t : Ty) (hw : wf t = true) (h : isTuple t = true) :
    (minTupleLen t).isSome = true := by
  have e : minTupleLen t =
      query (fun | .tup es => some es.length | _ => none) (fun a c => some (min a c)) t := by
    cases t <;> rfl
  rw [e]
  exact (query_isSome (fun m => by cases m <;> rfl) (fun _ _ => rfl) hw).trans ((isTuple_eq t).symm.trans h)

/-- `x.k`: `field_type(k).unwrap()` after `has_field(k)` -/
theorem fieldType_of_hasField (k : String) (t : Ty) (hw : wf t = true) (h : hasField k t = true) :
    (fieldType k t).isSome = true :=
  (query_isSome (fun m => by cases m <;> rfl) joinO_isSome hw).trans ((hasField_eq k t).symm.trans h)

/-! ## `(a, b) := x`: `flatten_tuple().unwrap()` after `is_tuple()` and `tuple_len() == Some(n)` -/

theorem flattenTuple_of_tupleLen (t : Ty) (n : Nat) (h : tupleLen t = some n) :
    ∃ l, flattenTuple t = some l ∧ l.length = n := by
  cases t with
  | tup es => exact ⟨es, rfl, Option.some.inj h⟩
  | multi ms =>
    -- `tuple_len` answers `n`: every member is a tuple of length `n` (the bound lemma with equality as the order)
    obtain ⟨_, hmem⟩ := foldQ_bound (P := fun _ => True) (R := fun a b : Nat => a = b) (fun _ _ => rfl)
      (fun _ _ _ => Eq.trans)
      (fun a c r _ _ hr => by
        split at hr
        · next e =>
          cases hr
          exact ⟨trivial, rfl, (eq_of_beq e).symm⟩
        · cases hr)
      ms n (fun _ _ _ _ => trivial) h
    -- so the position-wise join never meets two lengths
    apply foldQ_answers (Q := fun l : List Ty => l.length = n)
    · intro x y hx hy
      refine ⟨List.zipWith concat x y, ?_, ?_⟩
      · simp [hx, hy]
      · simp [hx, hy]
    · rintro rfl
      cases h
    · intro m hm
      obtain ⟨c, hc, rfl⟩ := hmem m hm
      cases m <;> cases hc
      exact ⟨_, rfl, rfl⟩
  | _ => cases h

/-- the never type passes `can_be_indexed`, `matches [any]` and `is_iterator` -/
theorem never_passes : canBeIndexed .never = true ∧ sub .never (.arr .any) = true ∧ isIterator .never = true := by
  simp [canBeIndexed, isIterator, sub_never]

/-- none of the queries behind the tests that the never type passes answers on it: the admissibility
    test alone does not protect the `unwrap` (defect F22; the checker now also asks the query) -/
theorem never_passes_but_unanswered :
    indexResult .never = none ∧ elementType .never = none ∧ iterElement .never = none ∧
    returnType .never = none := by
  simp [indexResult, elementType, iterElement, returnType, query]

/-- `x[i]`: on every well-formed type other than never, `index_result().unwrap()` after
    `can_be_indexed()` answers -/
theorem indexResult_of_canBeIndexed (t : Ty) (hw : wf t = true) (hn : isNever t = false)
    (h : canBeIndexed t = true) : (indexResult t).isSome = true := by
  by_cases hm : isMulti t = true
  · obtain ⟨ms, rfl⟩ := eq_multi_of_isMulti hm
    rw [indexResult, query, foldQ_isSome joinO_isSome (multi_ne_nil hw), List.all_eq_true]
    intro m hmem
    rcases canBeIndexed_member hw h hmem with rfl | ⟨e, rfl⟩ <;> rfl
  · rw [Bool.not_eq_true] at hm
    rcases canBeIndexed_single t hm hn h with rfl | ⟨e, rfl⟩ <;> rfl

/-! ## iterators of the shapes the operators accept -/

theorem iterElement_shape (e : Ty) : iterElement (.fn [] (.tup [.bool, e])) = some e := by
  simp [iterElement, query, flattenTuple, eqv]

theorem iterElement_union (ms : List Ty) (hne : ms ≠ [])
    (h : ∀ m ∈ ms, ∃ e, m = .fn [] (.tup [.bool, e])) : (iterElement (.multi ms)).isSome = true := by
  rw [iterElement, query, foldQ_isSome joinO_isSome hne, List.all_eq_true]
  intro m hm
  obtain ⟨e, rfl⟩ := h m hm
  exact congrArg Option.isSome (iterElement_shape e)

/-! ## the grammar and the code that walks its pairs -/

def ruleKind (r : String) : Option Peg.RuleKind :=
  (Gen.grammar.find? (fun p => p.1 == r)).map (·.2.1)

/-- a rule shows up as a pair when it is in simplesl.pest and not silent (pest's own pseudo-rules and the
    rules of the `var_type!` macro grammar are not in it) -/
def producesPair (r : String) : Bool :=
  match ruleKind r with
  | some k => k != .silent
  | none => false

/-- the rules a grammar expression refers to -/
def refs : Peg.Peg → List String
  | .rule n => [n]
  | .seq xs | .choice xs => refsL xs
  | .star e | .plus e | .opt e | .notP e | .andP e => refs e
  | _ => []
where refsL : List Peg.Peg → List String
  | [] => []
  | x :: xs => refs x ++ refsL xs

/-- the three sweeps over the string-keyed grammar table, decided together: within one decision the kernel looks a
    rule name up once, and most names occur in two of the sweeps.  Plain `decide` would evaluate them in the elaborator
    first and the kernel then again, `+kernel` leaves it to the kernel alone. -/
theorem grammar_sweeps :
    Gen.rulesInCode.all (fun p => producesPair p.1) = true ∧
    Gen.startRules.all (fun r => (ruleKind r).isSome) = true ∧
    Gen.grammar.all (fun p => (refs p.2.2).all (fun r => (ruleKind r).isSome)) = true := by
  decide +kernel

/-- **every rule the crate matches on produces pairs** -/
theorem rules_in_code_produce_pairs : Gen.rulesInCode.all (fun p => producesPair p.1) = true :=
  grammar_sweeps.1

/-- the start rules handed to `SimpleSLParser::parse` are rules of the grammar -/
theorem start_rules_exist : Gen.startRules.all (fun r => (ruleKind r).isSome) = true :=
  grammar_sweeps.2.1

/-- every rule a grammar expression refers to is defined (pest checks this at compile time too;
    here it guards the translator's reading of the grammar) -/
theorem grammar_closed :
    Gen.grammar.all (fun p => (refs p.2.2).all (fun r => (ruleKind r).isSome)) = true :=
  grammar_sweeps.2.2

end Ssl.C03
