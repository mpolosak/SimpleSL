import SslModel.Lemmas.SpecEq
/-!
# C13 — mutable cells: shared identity, atomic update value

Theorems about the store of the reference semantics `Spec`.  A cell value is `Val.cell loc ty`: it
holds a *location*, so copying the value (binding it, putting it into an array / struct / closure
snapshot, passing it) copies the location and every copy reads and writes the same store entry.
-/
namespace Ssl.C13
open Ssl Ssl.Spec

theorem bind_def {α β} (m : M α) (k : α → M β) (σ : St) :
    (m >>= k) σ = (match m σ with
      | (.ok a, σ') => k a σ'
      | (.error e, σ') => (.error e, σ')) :=
  bindM_def m k σ

/-! ## `mut` creates a fresh cell each time it is evaluated -/

theorem newCell_fresh (ty : Ty) (v : Val) (σ : St) :
    newCell ty v σ = (.ok (.cell σ.cells.size ty), { σ with cells := σ.cells.push v }) := rfl

/-- the new location is none of the existing ones, holds the initial value, and no existing cell changed -/
theorem newCell_spec (ty : Ty) (v : Val) (σ : St) :
    let σ' := (newCell ty v σ).2
    (∀ loc, loc < σ.cells.size → loc ≠ σ.cells.size ∧ σ'.cells[loc]? = σ.cells[loc]?) ∧
    σ'.cells[σ.cells.size]? = some v := by
  simp only [newCell_fresh]
  constructor
  · intro loc h
    refine ⟨by omega, ?_⟩
    simp [Array.getElem?_push, h, Nat.ne_of_lt h]
  · simp

theorem mut_evaluates_to_fresh_cell (f : Nat) (env : Env) (ty : Ty) (e : Expr) (σ σ1 : St) (v : Val)
    (h : eval f env e σ = (.ok v, σ1)) :
    eval (f + 1) env (.mutE (some ty) e) σ =
      (.ok (.cell σ1.cells.size ty), { σ1 with cells := σ1.cells.push v }) := by
  simp only [eval, bind_def, h]; rfl

/-- two evaluations of the same `mut` expression give two different cells -/
theorem two_muts_differ (ty : Ty) (v w : Val) (σ : St) :
    let r1 := newCell ty v σ
    let r2 := newCell ty w r1.2
    ∃ l1 l2, r1.1 = .ok (.cell l1 ty) ∧ r2.1 = .ok (.cell l2 ty) ∧ l1 ≠ l2 := by
  refine ⟨σ.cells.size, σ.cells.size + 1, rfl, ?_, by omega⟩
  simp [newCell]

/-! ## reads and writes go through the location -/

theorem read_after_write (loc : Nat) (v : Val) (σ : St) (h : loc < σ.cells.size) :
    let σ' := (writeCell loc v σ).2
    readCell loc σ' = (.ok v, σ') := by
  simp [writeCell, readCell, h]

theorem write_other_unchanged (loc loc' : Nat) (v : Val) (σ : St) (h : loc < σ.cells.size)
    (hne : loc' ≠ loc) :
    ((writeCell loc v σ).2).cells[loc']? = σ.cells[loc']? := by
  simp [writeCell, h, Ne.symm hne]

/-- `*c` reads the entry of the cell's location, whatever copy of the cell value is used -/
theorem deref_reads_location (f : Nat) (env : Env) (e : Expr) (σ σ1 : St) (loc : Nat) (ty : Ty)
    (h : eval f env e σ = (.ok (.cell loc ty), σ1)) :
    eval (f + 1) env (.pre .deref e) σ = readCell loc σ1 := by
  rw [eval_deref, bind_ok h]

/-- aliases: two names bound to the same cell value read the same content -/
theorem aliases_read_same (f : Nat) (env : Env) (x y : String) (c : Val) (σ : St)
    (hx : env.lookup x = some c) (hy : env.lookup y = some c) :
    eval (f + 2) env (.pre .deref (.var x)) σ = eval (f + 2) env (.pre .deref (.var y)) σ := by
  rw [eval_deref, eval_deref, eval_var, eval_var, hx, hy]

/-! ## `c = v` stores `v` and yields `v` -/

theorem assign_stores_and_yields (f : Nat) (env : Env) (t e : Expr) (σ σ1 σ2 : St) (loc : Nat)
    (ty : Ty) (v : Val)
    (ht : eval f env t σ = (.ok (.cell loc ty), σ1)) (hv : eval f env e σ1 = (.ok v, σ2))
    (hb : loc < σ2.cells.size) :
    eval (f + 1) env (.assign .set t e) σ = (.ok v, { σ2 with cells := σ2.cells.set! loc v }) := by
  rw [eval_assign, bind_ok ht, bind_ok hv]
  exact bind_ok (writeCell_ok v hb)

/-! ## `c op= v` uses the content at the moment of the update (after `v` was evaluated) -/

theorem compound_reads_after_rhs (f : Nat) (env : Env) (op : AssignOp) (bop : BinOp) (t e : Expr)
    (σ σ1 σ2 : St) (loc : Nat) (ty : Ty) (v cur r : Val)
    (hop : assignBase op = some bop)
    (ht : eval f env t σ = (.ok (.cell loc ty), σ1)) (hv : eval f env e σ1 = (.ok v, σ2))
    (hc : σ2.cells[loc]? = some cur) (hr : binScalar bop cur v = .ok r) :
    eval (f + 1) env (.assign op t e) σ = (.ok r, { σ2 with cells := σ2.cells.set! loc r }) := by
  have hb : loc < σ2.cells.size := (Array.getElem?_eq_some_iff.mp hc).1
  rw [eval_assign, bind_ok ht, bind_ok hv]
  simp only [hop]
  rw [bind_ok (readCell_ok hc), hr]
  exact bind_ok (writeCell_ok r hb)

/-- … and when the operation fails, the cell keeps its content -/
theorem compound_fail_unchanged (f : Nat) (env : Env) (op : AssignOp) (bop : BinOp) (t e : Expr)
    (σ σ1 σ2 : St) (loc : Nat) (ty : Ty) (v cur : Val) (err : Sig)
    (hop : assignBase op = some bop)
    (ht : eval f env t σ = (.ok (.cell loc ty), σ1)) (hv : eval f env e σ1 = (.ok v, σ2))
    (hc : σ2.cells[loc]? = some cur) (hr : binScalar bop cur v = .error err) :
    eval (f + 1) env (.assign op t e) σ = (.error err, σ2) := by
  rw [eval_assign, bind_ok ht, bind_ok hv]
  simp only [hop]
  rw [bind_ok (readCell_ok hc), hr]
  rfl

/-- every compound operator is its base operator (all 11 by instantiation) -/
theorem compound_operators :
    [AssignOp.add, .sub, .mul, .div, .mod, .pow, .shl, .shr, .band, .bor, .bxor].map assignBase =
    [some .add, some .sub, some .mul, some .div, some .mod, some .pow, some .shl, some .shr,
     some .band, some .bor, some .bxor] := by decide

example : (2 : Nat) < (({ cells := #[Val.unit, Val.unit, Val.unit] } : St)).cells.size := by decide

end Ssl.C13
