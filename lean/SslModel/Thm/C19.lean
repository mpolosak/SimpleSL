import SslModel.Model.Spec
import SslModel.Lemmas.Induction
import SslModel.Lemmas.Lists
/-!
# C19 — equality is by content, independent of static or stored types

Theorems about `Spec.veq`, the model of `PartialEq for Variable` (after the repair of array
equality), and about `F64.feq`, IEEE equality defined on bit patterns.
-/
namespace Ssl.C19
open Ssl Ssl.Spec

theorem feq_symm (a b : F64) : F64.feq a b = F64.feq b a := by
  unfold F64.feq
  rw [Bool.beq_comm (a := a.toNat), Bool.and_comm (F64.isZero a), Bool.and_comm (!F64.isNaN a)]

theorem feq_refl (a : F64) (h : F64.isNaN a = false) : F64.feq a a = true := by
  simp [F64.feq, h]

theorem nan_not_equal_to_itself (a : F64) (h : F64.isNaN a = true) : F64.feq a a = false := by
  simp [F64.feq, h]

theorem nan_not_equal_to_anything (a b : F64) (h : F64.isNaN a = true) :
    F64.feq a b = false ∧ F64.feq b a = false := by
  simp [F64.feq, h]

/-- `+0.0 == -0.0` -/
theorem signed_zeros_equal : F64.feq 0 0x8000000000000000 = true := by decide

/-! ## the equations of `veq`: one per constructor on the diagonal, `false` off it -/

def kind : Val → Nat
  | .bool _ => 0 | .int _ => 1 | .float _ => 2 | .str _ => 3 | .unit => 4 | .arr .. => 5
  | .tup _ => 6 | .struct _ => 7 | .cell .. => 8 | .fn .. => 9

/-- values of different kinds (bool, int, float, string, unit, array, tuple, struct, cell, function)
    are never equal -/
theorem kinds_disjoint (a b : Val) (h : kind a ≠ kind b) : veq a b = false := by
  unfold veq
  split <;> first | rfl | exact absurd rfl h

theorem eq_operator (x y : Val) : binScalar .eq x y = .ok (.bool (veq x y)) := rfl

theorem ne_is_not_eq (x y : Val) : binScalar .ne x y = .ok (.bool (!veq x y)) := rfl

theorem bool_by_value (a b : Bool) : veq (.bool a) (.bool b) = (a == b) := by simp [veq]
theorem int_by_value (a b : I64) : veq (.int a) (.int b) = (a == b) := by simp [veq]
theorem string_by_value (a b : String) : veq (.str a) (.str b) = (a == b) := by simp [veq]
theorem unit_equal : veq .unit .unit = true := by simp [veq]
theorem float_by_ieee (a b : F64) : veq (.float a) (.float b) = F64.feq a b := by simp [veq]

/-- however the two arrays were produced (whatever their stored element types), equality is that of
    their element lists -/
theorem array_tag_independent (t1 t2 : Ty) (as bs : List Val) :
    veq (.arr t1 as) (.arr t2 bs) = veqL as bs := by simp [veq]

theorem array_retag (t1 t2 t3 t4 : Ty) (as bs : List Val) :
    veq (.arr t1 as) (.arr t2 bs) = veq (.arr t3 as) (.arr t4 bs) := by
  rw [array_tag_independent, array_tag_independent]

theorem tuple_elementwise (as bs : List Val) : veq (.tup as) (.tup bs) = veqL as bs := by simp [veq]

theorem list_elementwise (a b : Val) (as bs : List Val) :
    veqL (a :: as) (b :: bs) = (veq a b && veqL as bs) := by simp [veqL]

theorem list_length_mismatch (a : Val) (as : List Val) :
    veqL (a :: as) [] = false ∧ veqL [] (a :: as) = false := by simp [veqL]

theorem veqL_iff (as bs : List Val) : veqL as bs = true ↔ Pointwise (fun a b => veq a b = true) as bs :=
  pointwise_of_eqns (by rw [veqL]) list_elementwise (fun b bs => (list_length_mismatch b bs).2)
    (fun a as => (list_length_mismatch a as).1) as bs

theorem struct_as_map (fa fb : List (String × Val)) :
    veq (.struct fa) (.struct fb) = (fa.length == fb.length && veqF fa fb) := by simp [veq]

theorem cell_by_identity (a b : Nat) (t1 t2 : Ty) : veq (.cell a t1) (.cell b t2) = (a == b) := by
  simp [veq]

theorem fn_by_identity (a b : Nat) (p1 p2 : List (String × Ty)) (r1 r2 : Ty) (b1 b2 : List Expr)
    (e1 e2 : Frame) (s1 s2 : Option String) :
    veq (.fn a p1 r1 b1 e1 s1) (.fn b p2 r2 b2 e2 s2) = (a == b) := by
  simp [veq]

/-! ## struct fields: `veqField` is a lookup -/

mutual
/-- no NaN anywhere inside; struct keys distinct (what a `HashMap` guarantees) -/
def clean : Val → Bool
  | .float b => !F64.isNaN b
  | .arr _ es => cleanL es
  | .tup es => cleanL es
  | .struct fs => cleanF fs && nodupKeys fs
  | _ => true
def cleanL : List Val → Bool
  | [] => true
  | v :: vs => clean v && cleanL vs
def cleanF : List (String × Val) → Bool
  | [] => true
  | (_, v) :: fs => clean v && cleanF fs
def nodupKeys : List (String × Val) → Bool
  | [] => true
  | (k, _) :: fs => !(fs.any (fun p => p.1 == k)) && nodupKeys fs
end

def lookupV (k : String) : List (String × Val) → Option Val
  | [] => none
  | (k', v) :: fs => if k == k' then some v else lookupV k fs

theorem veqField_iff (k : String) (v : Val) (fb : List (String × Val)) :
    veqField k v fb = true ↔ ∃ w, lookupV k fb = some w ∧ veq v w = true :=
  field_test_iff (g := veqField k v) (by rw [veqField]) (fun _ _ _ => by rw [veqField]) rfl (fun _ _ _ => rfl) fb

theorem veqF_iff (fa fb : List (String × Val)) :
    veqF fa fb = true ↔ ∀ p ∈ fa, veqField p.1 p.2 fb = true :=
  all_of_eqns (f := (veqF · fb)) (by rw [veqF]) (fun ⟨k, v⟩ fa => by rw [veqF]) fa

theorem lookupV_mem {k : String} {fs : List (String × Val)} {v : Val} (h : lookupV k fs = some v) : (k, v) ∈ fs :=
  mem_of_lookup rfl (fun _ _ _ => rfl) h

theorem keys_nodup {fs : List (String × Val)} (hn : nodupKeys fs = true) : (fs.map (·.1)).Nodup :=
  (keys_nodup_iff_of_eqns rfl (fun _ _ _ => rfl) fs).mp hn

theorem lookupV_of_mem {k : String} {v : Val} {fs : List (String × Val)} (hn : nodupKeys fs = true)
    (hm : (k, v) ∈ fs) : lookupV k fs = some v :=
  lookup_of_mem (fun _ _ _ => rfl) (keys_nodup hn) hm

/-- `==` is reflexive on values containing no NaN -/
theorem veq_refl_noNaN (v : Val) (h : clean v = true) : veq v v = true := by
  have cleanL_mem : ∀ {vs : List Val}, cleanL vs = true → ∀ x ∈ vs, clean x = true := fun {vs} =>
    (all_of_eqns rfl (fun _ _ => rfl) vs).mp
  induction v using Val.induction_mem with
  | float b => rw [float_by_ieee]; exact feq_refl b (by simpa [clean] using h)
  | arr _ es ih =>
    rw [array_tag_independent, veqL_iff]
    exact Pointwise.refl_of fun e he => ih e he (cleanL_mem h e he)
  | tup es ih =>
    rw [tuple_elementwise, veqL_iff]
    exact Pointwise.refl_of fun e he => ih e he (cleanL_mem h e he)
  | struct fs ih =>
    simp only [clean, Bool.and_eq_true] at h
    have hc := (all_of_eqns (f := cleanF) (p := fun q => clean q.2) rfl (fun _ _ => rfl) fs).mp h.1
    -- with distinct keys, looking a field's key up in the struct itself finds that field
    rw [struct_as_map, (veqF_iff fs fs).mpr fun p hp =>
      (veqField_iff p.1 p.2 fs).mpr ⟨p.2, lookupV_of_mem h.2 hp, ih p hp (hc p hp)⟩]
    simp
  | _ => simp [veq]

mutual
def structFree : Val → Bool
  | .arr _ es => structFreeL es
  | .tup es => structFreeL es
  | .struct _ => false
  | _ => true
def structFreeL : List Val → Bool
  | [] => true
  | v :: vs => structFree v && structFreeL vs
end

mutual
def keysOk : Val → Bool
  | .arr _ es => keysOkL es
  | .tup es => keysOkL es
  | .struct fs => keysOkF fs && nodupKeys fs
  | _ => true
def keysOkL : List Val → Bool
  | [] => true
  | v :: vs => keysOk v && keysOkL vs
def keysOkF : List (String × Val) → Bool
  | [] => true
  | (_, v) :: fs => keysOk v && keysOkF fs
end

theorem veqF_flip (fa fb : List (String × Val)) (ha : nodupKeys fa = true) (hb : nodupKeys fb = true)
    (hlen : fa.length = fb.length)
    (hs : ∀ p ∈ fa, ∀ q ∈ fb, veq p.2 q.2 = veq q.2 p.2)
    (h : veqF fa fb = true) : veqF fb fa = true := by
  rw [veqF_iff] at h ⊢
  intro q hq
  obtain ⟨p, hp, hpk, hv⟩ := fields_flip (r := fun x y => veq x y = true) fa fb (keys_nodup ha) (keys_nodup hb) hlen
    (fun p hp => let ⟨w, hl, hv⟩ := (veqField_iff p.1 p.2 fb).mp (h p hp); ⟨w, lookupV_mem hl, hv⟩) q hq
  exact (veqField_iff q.1 q.2 fa).mpr ⟨p.2, hpk ▸ lookupV_of_mem ha hp, hs p hp q hq ▸ hv⟩

theorem struct_symm (fa fb : List (String × Val)) (ha : nodupKeys fa = true) (hb : nodupKeys fb = true)
    (hs : ∀ p ∈ fa, ∀ q ∈ fb, veq p.2 q.2 = veq q.2 p.2) :
    veq (.struct fa) (.struct fb) = veq (.struct fb) (.struct fa) := by
  rw [struct_as_map, struct_as_map, Bool.beq_comm (a := fb.length)]
  cases hl : fa.length == fb.length
  · rfl
  · have hlen : fa.length = fb.length := eq_of_beq hl
    exact Bool.eq_iff_iff.mpr ⟨veqF_flip fa fb ha hb hlen hs,
      veqF_flip fb fa hb ha hlen.symm (fun q hq p hp => (hs p hp q hq).symm)⟩

theorem keysOkF_mem {fs : List (String × Val)} (h : keysOkF fs = true) {p : String × Val} (hp : p ∈ fs) :
    keysOk p.2 = true :=
  (all_of_eqns (p := fun q => keysOk q.2) rfl (fun _ _ => rfl) fs).mp h p hp

/-- off the diagonal both sides are `false` -/
theorem veq_symm_of_diag (a b : Val) (h : kind a = kind b → veq a b = veq b a) : veq a b = veq b a := by
  by_cases hk : kind a = kind b
  · exact h hk
  · rw [kinds_disjoint a b hk, kinds_disjoint b a (Ne.symm hk)]

theorem veqL_symm_of (as bs : List Val) (h : ∀ a ∈ as, ∀ b ∈ bs, veq a b = veq b a) : veqL as bs = veqL bs as := by
  refine Bool.eq_iff_iff.mpr ⟨fun p => ?_, fun p => ?_⟩ <;> rw [veqL_iff] at p ⊢
  · exact p.flip_of fun a ha b hb e => h a ha b hb ▸ e
  · exact p.flip_of fun b hb a ha e => (h a ha b hb).symm ▸ e

/-- `veq a b = veq b a` as soon as every struct that is compared has distinct keys: `a` holds no
    struct at all, or both sides are `keysOk` -/
theorem veq_symm_gen (a b : Val) (h : structFree a = true ∨ (keysOk a = true ∧ keysOk b = true)) :
    veq a b = veq b a := by
  refine veq_symm_of_diag a b fun hk => ?_
  have side : ∀ {as bs : List Val}, structFreeL as = true ∨ (keysOkL as = true ∧ keysOkL bs = true) →
      ∀ a ∈ as, ∀ b ∈ bs, structFree a = true ∨ (keysOk a = true ∧ keysOk b = true) := fun {as bs} h a ha b hb =>
    h.imp (fun h => (all_of_eqns rfl (fun _ _ => rfl) as).mp h a ha) fun h =>
      ⟨(all_of_eqns rfl (fun _ _ => rfl) as).mp h.1 a ha, (all_of_eqns rfl (fun _ _ => rfl) bs).mp h.2 b hb⟩
  induction a using Val.induction_mem generalizing b with
  | bool =>
    cases b <;> try (cases hk; done)
    rw [bool_by_value, bool_by_value]; exact Bool.beq_comm
  | int =>
    cases b <;> try (cases hk; done)
    rw [int_by_value, int_by_value]; exact Bool.beq_comm
  | str =>
    cases b <;> try (cases hk; done)
    rw [string_by_value, string_by_value]; exact Bool.beq_comm
  | unit =>
    cases b <;> try (cases hk; done)
    rfl
  | float =>
    cases b <;> try (cases hk; done)
    rw [float_by_ieee, float_by_ieee]; exact feq_symm _ _
  | cell =>
    cases b <;> try (cases hk; done)
    rw [cell_by_identity, cell_by_identity]; exact Bool.beq_comm
  | fn =>
    cases b <;> try (cases hk; done)
    rw [fn_by_identity, fn_by_identity]; exact Bool.beq_comm
  | arr _ es ih =>
    cases b <;> try (cases hk; done)
    rw [array_tag_independent, array_tag_independent]
    exact veqL_symm_of es _ fun x hx y hy => veq_symm_of_diag x y (ih x hx y (side h x hx y hy))
  | tup es ih =>
    cases b <;> try (cases hk; done)
    rw [tuple_elementwise, tuple_elementwise]
    exact veqL_symm_of es _ fun x hx y hy => veq_symm_of_diag x y (ih x hx y (side h x hx y hy))
  | struct fa ih =>
    cases b <;> try (cases hk; done)
    obtain h | ⟨ha, hb⟩ := h
    · cases h
    · simp only [keysOk, Bool.and_eq_true] at ha hb
      exact struct_symm fa _ ha.2 hb.2 fun p hp q hq =>
        veq_symm_of_diag p.2 q.2 (ih p hp q.2 (.inr ⟨keysOkF_mem ha.1 hp, keysOkF_mem hb.1 hq⟩))

theorem veq_symm_partial (a b : Val) (h : structFree a = true) : veq a b = veq b a :=
  veq_symm_gen a b (.inl h)

/-- **`==` is symmetric** on all values whose structs have distinct keys -/
theorem veq_symm (a b : Val) (ha : keysOk a = true) (hb : keysOk b = true) : veq a b = veq b a :=
  veq_symm_gen a b (.inr ⟨ha, hb⟩)

/-! ## non-vacuity -/
example : clean (.arr .int [.tup [.int 1, .str "a"], .struct [("k", .float 0)]]) = true := by
  simp [clean, cleanL, cleanF, nodupKeys]; decide

end Ssl.C19
