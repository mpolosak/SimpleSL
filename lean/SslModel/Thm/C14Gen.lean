import SslModel.Model.Pratt
/-!
# C14, unbounded: the grouping of ANY chain of binary operators

For the model of pest's Pratt loop and ANY table in which operators of one precedence share one associativity
(`Uniform`): on an operand / binary-operator chain of ANY length `p₀ o₁ p₁ o₂ … oₙ pₙ` the loop answers a tree that reads
back, left to right, as the token sequence (`parse_chain_flatten`) and in which, at every node and at every depth, a
higher-precedence operator is never split by a lower one and equal precedence groups by the level's associativity
(`PC`, `parse_chain_grouping`); that tree is the only precedence-correct one over the chain (`parse_chain_unique`).
`Thm/C14.lean` discharges the hypothesis for the table regenerated from `parser/src/lib.rs` (`table_uniform`) and reads
the grouping of all operator pairs and triples off these theorems.  Prefix and postfix operators are outside the chains:
for them the loop is run on the three- and four-token sequences with one such operator, over the rows of the operators
involved (`parse_prefix_infix`, `parse_prefix_postfix`, `parse_infix_postfix`).
-/
namespace Ssl.C14
open Ssl.Pratt

def infixPrec (T : Table) (t : Tok) : Option (Nat × Bool) :=
  match T.get t.rule with
  | some (.infixL, p) => some (p, false)
  | some (.infixR, p) => some (p, true)
  | _ => none

def isPrim (T : Table) (t : Tok) : Bool := (T.get t.rule).isNone

mutual
/-- `p (o p)*` -/
def altP (T : Table) : List Tok → Bool
  | [] => false
  | t :: rest => isPrim T t && altO T rest
/-- `(o p)*` -/
def altO (T : Table) : List Tok → Bool
  | [] => true
  | t :: rest => (infixPrec T t).isSome && altP T rest
end

def flatten : Tree → List Tok
  | .prim t => [t]
  | .pre o r => o :: flatten r
  | .post l o => flatten l ++ [o]
  | .bin l o r => flatten l ++ o :: flatten r

def rootOp : Tree → Option Tok
  | .bin _ o _ => some o
  | _ => none

/-- the left operand `l` may stand under `o`: its operator binds tighter, or equally and the level is left-associative -/
def leftOk (T : Table) (l : Tree) (o : Tok) : Prop :=
  ∀ o1 p ra p1 ra1, rootOp l = some o1 → infixPrec T o = some (p, ra) → infixPrec T o1 = some (p1, ra1) →
    p < p1 ∨ (p1 = p ∧ ra = false)

/-- the right operand `r` may stand under `o`: its operator binds tighter, or equally and the level is right-associative -/
def rightOk (T : Table) (o : Tok) (r : Tree) : Prop :=
  ∀ o2 p ra p2 ra2, rootOp r = some o2 → infixPrec T o = some (p, ra) → infixPrec T o2 = some (p2, ra2) →
    p < p2 ∨ (p2 = p ∧ ra = true)

/-- precedence-correct at every node -/
def PC (T : Table) : Tree → Prop
  | .prim _ => True
  | .pre _ r => PC T r
  | .post l _ => PC T l
  | .bin l o r => PC T l ∧ PC T r ∧ leftOk T l o ∧ rightOk T o r

/-- trees of operand leaves and binary operator nodes over the table -/
def WFT (T : Table) : Tree → Prop
  | .prim t => isPrim T t = true
  | .bin l o r => WFT T l ∧ WFT T r ∧ (infixPrec T o).isSome = true
  | _ => False

theorem leftOk_prim (T : Table) (t o : Tok) : leftOk T (.prim t) o := fun _ _ _ _ _ h => nomatch h
theorem rightOk_prim (T : Table) (o t : Tok) : rightOk T o (.prim t) := fun _ _ _ _ _ h => nomatch h

structure Uniform (T : Table) : Prop where
  assoc : ∀ o1 o2 p ra1 ra2, infixPrec T o1 = some (p, ra1) → infixPrec T o2 = some (p, ra2) → ra1 = ra2
  pos : ∀ o p ra, infixPrec T o = some (p, ra) → 0 < p

/-- the binding power an operator passes to the parse of its right operand -/
def rbpOf (p : Nat) (ra : Bool) : Nat := if ra then p - 1 else p

/-- an operator that does not bind tighter than `rbpOf p1 ra1` may stand above an operator `(p1, ra1)` to its left … -/
theorem le_rbpOf {p p1 : Nat} {ra1 : Bool} (hpos : 0 < p1) (h : p ≤ rbpOf p1 ra1) :
    p < p1 ∨ (p1 = p ∧ ra1 = false) := by
  cases ra1 with
  | false => exact (Nat.lt_or_eq_of_le h).imp_right fun e => ⟨e.symm, rfl⟩
  | true => exact .inl (Nat.lt_of_le_of_lt h (Nat.sub_one_lt (Nat.ne_of_gt hpos)))

/-- … and an operator that binds tighter than `rbpOf p ra` may stand below an operator `(p, ra)` to its left -/
theorem rbpOf_lt {p p2 : Nat} {ra : Bool} (h : rbpOf p ra < p2) : p < p2 ∨ (p2 = p ∧ ra = true) := by
  cases ra with
  | false => exact .inl h
  | true => exact (Nat.lt_or_eq_of_le (Nat.le_of_pred_lt h)).imp_right fun e => ⟨e.symm, rfl⟩

def StopsAt (T : Table) (rest : List Tok) (rbp : Nat) : Prop :=
  ∀ o rest', rest = o :: rest' → ∀ p ra, infixPrec T o = some (p, ra) → p ≤ rbp

def RootAbove (T : Table) (t : Tree) (rbp : Nat) : Prop :=
  ∀ o p ra, rootOp t = some o → infixPrec T o = some (p, ra) → rbp < p

/-- the next operator does not bind tighter than the root operator allowed (`≤ p₁` after a left-associative root,
    `< p₁` after a right-associative one) -/
def Accepts (T : Table) (lhs : Tree) (toks : List Tok) : Prop :=
  ∀ o1 p1 ra1, rootOp lhs = some o1 → infixPrec T o1 = some (p1, ra1) → StopsAt T toks (rbpOf p1 ra1)

/-- the invariant of `loop` at binding power `rbp`: the tree built so far, over the tokens still to be read -/
structure LoopInv (T : Table) (lhs : Tree) (toks : List Tok) (rbp : Nat) : Prop where
  wft : WFT T lhs
  pc : PC T lhs
  alt : altO T toks = true
  accepts : Accepts T lhs toks
  above : RootAbove T lhs rbp

theorem infixPrec_get {T : Table} {t : Tok} {p : Nat} {ra : Bool} (h : infixPrec T t = some (p, ra)) :
    T.get t.rule = some (if ra then .infixR else .infixL, p) := by
  unfold infixPrec at h
  split at h
  · simp only [Option.some.injEq, Prod.mk.injEq] at h; obtain ⟨rfl, rfl⟩ := h; simp [*]
  · simp only [Option.some.injEq, Prod.mk.injEq] at h; obtain ⟨rfl, rfl⟩ := h; simp [*]
  · simp at h

theorem flatten_ne_nil : ∀ t : Tree, flatten t ≠ []
  | .prim _ => by simp [flatten]
  | .pre _ _ => by simp [flatten]
  | .post _ _ => by simp [flatten]
  | .bin _ _ _ => by simp [flatten]

theorem loop_go {T : Table} {f : Nat} {lhs rhs : Tree} {o : Tok} {rest rest' : List Tok} {rbp p : Nat} {ra : Bool}
    (hip : infixPrec T o = some (p, ra)) (hlt : rbp < p)
    (he : Pratt.expr T f rest (rbpOf p ra) = .ok (rhs, rest')) :
    Pratt.loop T (f + 1) lhs (o :: rest) rbp = Pratt.loop T f (.bin lhs o rhs) rest' rbp := by
  have hget := infixPrec_get hip
  cases ra <;> simp only [rbpOf, if_true, Bool.false_eq_true, if_false] at he hget <;>
    simp only [Pratt.loop, hget, hlt, if_true, he]

theorem loop_stop {T : Table} {f : Nat} {lhs : Tree} {o : Tok} {rest : List Tok} {rbp p : Nat} {ra : Bool}
    (hip : infixPrec T o = some (p, ra)) (hle : ¬ rbp < p) :
    Pratt.loop T (f + 1) lhs (o :: rest) rbp = .ok (lhs, o :: rest) := by
  simp only [Pratt.loop, infixPrec_get hip, hle, if_false]

/-- the node the loop builds keeps the invariant: `lhs` accepted `o` as the next operator, and the right operand came
    back from a parse with the binding power of `o`, which stopped at `rest'` -/
theorem inv_node {T : Table} (hu : Uniform T) {lhs rhs : Tree} {o : Tok} {rest rest' : List Tok} {rbp p : Nat}
    {ra : Bool} (hip : infixPrec T o = some (p, ra)) (hlt : rbp < p) (hl : LoopInv T lhs (o :: rest) rbp)
    (hr : LoopInv T rhs rest' (rbpOf p ra)) (hs : StopsAt T rest' (rbpOf p ra)) : LoopInv T (.bin lhs o rhs) rest' rbp := by
  -- the root of the new node is `o`
  have root : ∀ {o' p' ra'}, rootOp (.bin lhs o rhs) = some o' → infixPrec T o' = some (p', ra') → p' = p ∧ ra' = ra :=
    fun hr' hio' => by cases hr'; rw [hip] at hio'; cases hio'; exact ⟨rfl, rfl⟩
  refine ⟨⟨hl.wft, hr.wft, Option.isSome_iff_exists.mpr ⟨_, hip⟩⟩, ⟨hl.pc, hr.pc, ?_, ?_⟩, hr.alt, ?_, ?_⟩
  · intro o1 p' ra' p1 ra1 hr1 hio hio1
    rw [hip] at hio; cases hio
    exact (le_rbpOf (hu.pos o1 p1 ra1 hio1) (hl.accepts o1 p1 ra1 hr1 hio1 o rest rfl p ra hip)).imp_right
      fun ⟨e, h⟩ => ⟨e, (hu.assoc o o1 p ra ra1 hip (e ▸ hio1)).trans h⟩
  · intro o2 p' ra' p2 ra2 hr2 hio hio2
    rw [hip] at hio; cases hio
    exact rbpOf_lt (hr.above o2 p2 ra2 hr2 hio2)
  · intro o' p' ra' hr' hio'
    obtain ⟨rfl, rfl⟩ := root hr' hio'
    exact hs
  · intro o' p' ra' hr' hio'
    obtain ⟨rfl, rfl⟩ := root hr' hio'
    exact hlt

/-- total correctness of `expr` and `loop` on chains, by induction on the fuel: both answer, what they answer reads
    back as what they consumed and satisfies `LoopInv`, and they stop in front of an operator that binds no tighter than
    `rbp` -/
theorem chain_aux (T : Table) (hu : Uniform T) (f : Nat) :
    (∀ toks rbp, altP T toks = true → 2 * toks.length + 2 ≤ f →
      ∃ t rest, Pratt.expr T f toks rbp = .ok (t, rest) ∧ flatten t ++ rest = toks ∧
        LoopInv T t rest rbp ∧ StopsAt T rest rbp) ∧
    (∀ lhs toks rbp, LoopInv T lhs toks rbp → 2 * toks.length + 1 ≤ f →
      ∃ t rest, Pratt.loop T f lhs toks rbp = .ok (t, rest) ∧ flatten t ++ rest = flatten lhs ++ toks ∧
        LoopInv T t rest rbp ∧ StopsAt T rest rbp) := by
  induction f with
  | zero => exact ⟨fun _ _ _ hf => absurd hf (by omega), fun _ _ _ _ hf => absurd hf (by omega)⟩
  | succ f ih =>
    obtain ⟨ihe, ihl⟩ := ih
    constructor
    · intro toks rbp ha hf
      cases toks with
      | nil => simp [altP] at ha
      | cons p0 rest0 =>
        simp only [altP, Bool.and_eq_true] at ha
        have hp0 := ha.1
        simp only [isPrim, Option.isNone_iff_eq_none] at hp0
        simp only [List.length_cons] at hf
        -- an operand is a tree with no root operator: it accepts every next operator, above every binding power
        obtain ⟨t, rest, hl, e, hinv, hs⟩ := ihl (.prim p0) rest0 rbp
          ⟨ha.1, trivial, ha.2, fun _ _ _ hr => (nomatch hr), fun _ _ _ hr => (nomatch hr)⟩ (by omega)
        obtain ⟨k, rfl⟩ : ∃ k, f = k + 1 := ⟨f - 1, by omega⟩
        exact ⟨t, rest, by simp only [Pratt.expr, Pratt.nud, hp0, hl], by simpa [flatten] using e, hinv, hs⟩
    · intro lhs toks rbp hinv hf
      cases toks with
      | nil => exact ⟨lhs, [], by simp [Pratt.loop], rfl, hinv, fun _ _ hr => nomatch hr⟩
      | cons o rest0 =>
        have ha := hinv.alt
        simp only [altO, Bool.and_eq_true, Option.isSome_iff_exists] at ha
        obtain ⟨⟨⟨p, ra⟩, hip⟩, hrest0⟩ := ha
        simp only [List.length_cons] at hf
        by_cases hlt : rbp < p
        · -- the right operand is parsed with the binding power of `o`, then the loop goes on with what is left
          obtain ⟨rhs, rest', he, e1, hr, hs⟩ := ihe rest0 (rbpOf p ra) hrest0 (by omega)
          have hlen : rest'.length ≤ rest0.length := by
            have := congrArg List.length e1
            simp only [List.length_append] at this
            omega
          obtain ⟨t, rest, hl, e2, hinv', hs'⟩ :=
            ihl (.bin lhs o rhs) rest' rbp (inv_node hu hip hlt hinv hr hs) (by omega)
          exact ⟨t, rest, by rw [loop_go hip hlt he, hl], by rw [e2, ← e1]; simp [flatten], hinv', hs'⟩
        · refine ⟨lhs, o :: rest0, loop_stop hip hlt, rfl, hinv, ?_⟩
          intro o' r' hr p' ra' hio'
          cases hr
          rw [hip] at hio'; cases hio'
          omega

/-- `parse` on a chain: fuel `3·n + 3` is enough, and nothing is left over -/
theorem parse_chain_built (T : Table) (hu : Uniform T) (toks : List Tok) (ha : altP T toks = true) :
    ∃ t, Pratt.parse T toks = .ok t ∧ flatten t = toks ∧ WFT T t ∧ PC T t := by
  obtain ⟨t, rest, he, h1, hinv, hs⟩ := (chain_aux T hu (3 * toks.length + 3)).1 toks 0 ha (by omega)
  refine ⟨t, by simp only [Pratt.parse, he], ?_, hinv.wft, hinv.pc⟩
  -- nothing is left over: a remaining operator would have to bind no tighter than 0
  cases rest with
  | nil => simpa using h1
  | cons o r =>
    exfalso
    have h3 := hinv.alt
    simp only [altO, Bool.and_eq_true, Option.isSome_iff_exists] at h3
    obtain ⟨⟨⟨p, ra⟩, hip⟩, _⟩ := h3
    have := hs o r rfl p ra hip
    have := hu.pos o p ra hip
    omega

/-- on an operand / binary-operator chain of ANY length the Pratt loop does not panic and does not run out of the fuel
    `parse` gives it: it answers a tree, the tree reads back as the chain and is precedence-correct at every node -/
theorem parse_chain_total (T : Table) (hu : Uniform T) (toks : List Tok) (ha : altP T toks = true) :
    ∃ t, Pratt.parse T toks = .ok t ∧ flatten t = toks ∧ PC T t :=
  let ⟨t, hp, hf, _, hpc⟩ := parse_chain_built T hu toks ha
  ⟨t, hp, hf, hpc⟩

/-- ANY operand / binary-operator chain: what the Pratt loop answers reads back as the chain -/
theorem parse_chain_flatten (T : Table) (hu : Uniform T) (toks : List Tok) (t : Tree)
    (ha : altP T toks = true) (h : Pratt.parse T toks = .ok t) : flatten t = toks := by
  obtain ⟨t', hp, hf, _, _⟩ := parse_chain_built T hu toks ha
  cases hp.symm.trans h; exact hf

/-- … and at every node a tighter (or equally tight, correctly associated) operator stands below a looser one -/
theorem parse_chain_grouping (T : Table) (hu : Uniform T) (toks : List Tok) (t : Tree)
    (ha : altP T toks = true) (h : Pratt.parse T toks = .ok t) : PC T t := by
  obtain ⟨t', hp, _, _, hpc⟩ := parse_chain_built T hu toks ha
  cases hp.symm.trans h; exact hpc

/-! ## the precedence-correct tree is unique -/

/-- every operator occurring in the tree may stand below an operator of precedence `p`, on its left side
    (`needRight = false`) or its right side (`needRight = true`): it binds tighter than `p`, or equally tight on a level
    whose associativity is `needRight` -/
def AllOps (T : Table) (p : Nat) (needRight : Bool) : Tree → Prop
  | .prim _ => True
  | .bin l o r => AllOps T p needRight l ∧ AllOps T p needRight r ∧
      (∀ p' ra', infixPrec T o = some (p', ra') → p < p' ∨ (p' = p ∧ ra' = needRight))
  | _ => True

/-- the bound of `AllOps` may be lowered, or kept with the one associativity the level has -/
theorem allOps_of (T : Table) {p q : Nat} {nr nr' : Bool}
    (h : q < p ∨ (p = q ∧ ∀ o ra, infixPrec T o = some (q, ra) → ra = nr')) :
    ∀ t, AllOps T p nr t → AllOps T q nr' t
  | .prim _, _ => trivial
  | .bin l o r, ⟨hl, hr, ho⟩ => ⟨allOps_of T h l hl, allOps_of T h r hr, fun p' ra' hp => by
      rcases h with h | ⟨rfl, h⟩
      · rcases ho p' ra' hp with h1 | h1 <;> (left; omega)
      · rcases ho p' ra' hp with h1 | ⟨rfl, _⟩
        · exact Or.inl h1
        · exact Or.inr ⟨rfl, h o ra' hp⟩⟩
  | .pre _ _, _ => trivial
  | .post _ _, _ => trivial

/-- local precedence-correctness gives the global statement: if the root of a precedence-correct tree may stand under
    an operator of level `p` on the side of associativity `nr`, all of the tree may -/
theorem allOps_of_pc (T : Table) (hu : Uniform T) : ∀ t, WFT T t → PC T t → ∀ o p ra nr, infixPrec T o = some (p, ra) →
    (∀ o1 p1 ra1, rootOp t = some o1 → infixPrec T o1 = some (p1, ra1) → p < p1 ∨ (p1 = p ∧ ra = nr)) →
    AllOps T p nr t
  | .prim _, _, _, _, _, _, _, _, _ => trivial
  | .pre _ _, hw, _, _, _, _, _, _, _ => hw.elim
  | .post _ _, hw, _, _, _, _, _, _, _ => hw.elim
  | .bin l1 o1 r1, ⟨hwl, hwr, ho1⟩, ⟨hpl, hpr, hlo, hro⟩, o, p, ra, nr, hip, hroot => by
    obtain ⟨⟨p1, ra1⟩, hip1⟩ := Option.isSome_iff_exists.mp ho1
    have g1 := allOps_of_pc T hu l1 hwl hpl o1 p1 ra1 false hip1 fun o2 p2 ra2 hr h2 => hlo o2 p1 ra1 p2 ra2 hr hip1 h2
    have g2 := allOps_of_pc T hu r1 hwr hpr o1 p1 ra1 true hip1 fun o2 p2 ra2 hr h2 => hro o2 p1 ra1 p2 ra2 hr hip1 h2
    -- on the level of `o` itself the associativity is the one `o` has
    have h' : p < p1 ∨ (p1 = p ∧ ∀ o' ra', infixPrec T o' = some (p, ra') → ra' = nr) :=
      (hroot o1 p1 ra1 rfl hip1).imp_right fun ⟨e, hra⟩ =>
        ⟨e, fun o' ra' h' => (hu.assoc o' o p ra' ra h' hip).trans hra⟩
    refine ⟨allOps_of T h' l1 g1, allOps_of T h' r1 g2, fun p' ra' hp' => ?_⟩
    rw [hip1] at hp'; cases hp'
    exact h'.imp_right fun ⟨e, hra⟩ => ⟨e, hra o1 ra1 (e ▸ hip1)⟩

theorem pc_global (T : Table) (hu : Uniform T) : ∀ t, WFT T t → PC T t →
    ∀ l o r, t = .bin l o r → ∀ p ra, infixPrec T o = some (p, ra) → AllOps T p false l ∧ AllOps T p true r := by
  intro t hw hpc l o r h p ra hip
  subst h
  obtain ⟨hwl, hwr, _⟩ := hw
  obtain ⟨hpl, hpr, hlo, hro⟩ := hpc
  exact ⟨allOps_of_pc T hu l hwl hpl o p ra false hip fun o1 p1 ra1 hr h1 => hlo o1 p ra p1 ra1 hr hip h1,
    allOps_of_pc T hu r hwr hpr o p ra true hip fun o2 p2 ra2 hr h2 => hro o2 p ra p2 ra2 hr hip h2⟩

theorem infixPrec_prim {T : Table} {t : Tok} (h : isPrim T t = true) : infixPrec T t = none := by
  simp only [isPrim, Option.isNone_iff_eq_none] at h
  simp only [infixPrec, h]

theorem allOps_mem (T : Table) {p : Nat} {nr : Bool} : ∀ t, WFT T t → AllOps T p nr t →
    ∀ tok, tok ∈ flatten t → ∀ p' ra', infixPrec T tok = some (p', ra') → p < p' ∨ (p' = p ∧ ra' = nr)
  | .prim a, hw, _, tok, hm, p', ra', hp => by
    simp only [flatten, List.mem_singleton] at hm; subst hm
    rw [infixPrec_prim hw] at hp; cases hp
  | .bin l o r, ⟨hwl, hwr, _⟩, ⟨hl, hr, ho⟩, tok, hm, p', ra', hp => by
    simp only [flatten, List.mem_append, List.mem_cons] at hm
    rcases hm with hm | rfl | hm
    · exact allOps_mem T l hwl hl tok hm p' ra' hp
    · exact ho p' ra' hp
    · exact allOps_mem T r hwr hr tok hm p' ra' hp
  | .pre _ _, hw, _, _, _, _, _, _ => hw.elim
  | .post _ _, hw, _, _, _, _, _, _ => hw.elim

/-- an operator `oa` in the left operand of `ob` and `ob` in the right operand of `oa`: each would have to bind
    tighter than the other, or both sit on one level that is left- and right-associative -/
theorem no_cross (T : Table) (hu : Uniform T) {ta tb : Tree} {oa ob : Tok} {pa pb : Nat} {raa rab : Bool}
    (hwa : WFT T ta) (hwb : WFT T tb) (ga : AllOps T pb false ta) (gb : AllOps T pa true tb)
    (ma : oa ∈ flatten ta) (mb : ob ∈ flatten tb)
    (ha : infixPrec T oa = some (pa, raa)) (hb : infixPrec T ob = some (pb, rab)) : False := by
  rcases allOps_mem T ta hwa ga oa ma pa raa ha with a1 | ⟨a1, rfl⟩ <;>
    rcases allOps_mem T tb hwb gb ob mb pb rab hb with a2 | ⟨a2, rfl⟩
  · omega
  · omega
  · omega
  · cases hu.assoc oa ob pb false true (a1 ▸ ha) hb

/-- two splittings of one list at a marked member are the same, or each marked member lies beyond the other -/
theorem split_cases {α : Type} : ∀ {l1 l2 r1 r2 : List α} {a b : α}, l1 ++ a :: r1 = l2 ++ b :: r2 →
    (l1 = l2 ∧ a = b ∧ r1 = r2) ∨ (a ∈ l2 ∧ b ∈ r1) ∨ (b ∈ l1 ∧ a ∈ r2)
  | [], [], _, _, _, _, h => by cases h; exact .inl ⟨rfl, rfl, rfl⟩
  | [], _ :: _, _, _, _, _, h => by cases h; exact .inr (.inl ⟨List.mem_cons_self, by simp⟩)
  | _ :: _, [], _, _, _, _, h => by cases h; exact .inr (.inr ⟨List.mem_cons_self, by simp⟩)
  | x :: l1, y :: l2, _, _, _, _, h => by
    obtain ⟨rfl, h'⟩ := List.cons.inj h
    rcases split_cases (l1 := l1) (l2 := l2) h' with ⟨rfl, e⟩ | ⟨h1, h2⟩ | ⟨h1, h2⟩
    · exact .inl ⟨rfl, e⟩
    · exact .inr (.inl ⟨List.mem_cons_of_mem _ h1, h2⟩)
    · exact .inr (.inr ⟨List.mem_cons_of_mem _ h1, h2⟩)

theorem flatten_eq_singleton {T : Table} {a : Tok} : ∀ {t : Tree}, WFT T t → flatten t = [a] → t = .prim a
  | .prim _, _, h => by cases h; rfl
  | .bin l o r, _, h => by
    rcases split_cases (l1 := flatten l) (l2 := []) (r2 := []) h with ⟨e, _⟩ | ⟨h1, _⟩ | ⟨_, h2⟩
    · exact absurd e (flatten_ne_nil l)
    · cases h1
    · cases h2
  | .pre _ _, hw, _ => hw.elim
  | .post _ _, hw, _ => hw.elim

/-- two precedence-correct trees over the same token sequence are the same tree: the grouping the table prescribes is
    the ONLY one in which tighter operators stand below looser ones and equal levels group by their associativity -/
theorem pc_unique (T : Table) (hu : Uniform T) : ∀ t1 t2, WFT T t1 → WFT T t2 → PC T t1 → PC T t2 →
    flatten t1 = flatten t2 → t1 = t2 := by
  intro t1
  induction t1 with
  | pre _ _ _ => intro _ hw; exact hw.elim
  | post _ _ _ => intro _ hw; exact hw.elim
  | prim a => intro t2 _ hw2 _ _ hf; exact (flatten_eq_singleton hw2 hf.symm).symm
  | bin l1 o1 r1 ihl ihr =>
    intro t2 hw1 hw2 hpc1 hpc2 hf
    cases t2 with
    | pre _ _ => exact hw2.elim
    | post _ _ => exact hw2.elim
    | prim b => cases flatten_eq_singleton hw1 hf
    | bin l2 o2 r2 =>
      obtain ⟨⟨p1, ra1⟩, hip1⟩ := Option.isSome_iff_exists.mp hw1.2.2
      obtain ⟨⟨p2, ra2⟩, hip2⟩ := Option.isSome_iff_exists.mp hw2.2.2
      obtain ⟨g1l, g1r⟩ := pc_global T hu (.bin l1 o1 r1) hw1 hpc1 l1 o1 r1 rfl p1 ra1 hip1
      obtain ⟨g2l, g2r⟩ := pc_global T hu (.bin l2 o2 r2) hw2 hpc2 l2 o2 r2 rfl p2 ra2 hip2
      -- the two trees split the chain at the same operator: otherwise the root of each stands inside an operand of
      -- the other, `o1` in `l2` and `o2` in `r1` or the other way round
      rcases split_cases (l1 := flatten l1) (l2 := flatten l2) hf with ⟨sl, so, sr⟩ | ⟨m1, m2⟩ | ⟨m2, m1⟩
      · rw [ihl l2 hw1.1 hw2.1 hpc1.1 hpc2.1 sl, ihr r2 hw1.2.1 hw2.2.1 hpc1.2.1 hpc2.2.1 sr, so]
      · exact (no_cross T hu hw2.1 hw1.2.1 g2l g1r m1 m2 hip1 hip2).elim
      · exact (no_cross T hu hw1.1 hw2.2.1 g1l g2r m2 m1 hip2 hip1).elim

/-- the parser answers THE precedence-correct tree: any tree of operand leaves and binary nodes that reads as the
    chain and is precedence-correct at every node is the tree the Pratt loop builds -/
theorem parse_chain_unique (T : Table) (hu : Uniform T) (toks : List Tok) (ha : altP T toks = true)
    (t' : Tree) (hw : WFT T t') (hpc : PC T t') (hf : flatten t' = toks) : Pratt.parse T toks = .ok t' := by
  obtain ⟨t, hp, h1, hwt, h2⟩ := parse_chain_built T hu toks ha
  rw [hp, pc_unique T hu t t' hwt hw h2 hpc (h1.trans hf.symm)]

/-! ## one prefix or postfix operator next to a binary operator, over the rows of the operators involved -/

section Affixes
variable {T : Table} {x y p o q : Tok} {pp po pq : Nat} {ra : Bool}

theorem parse_prefix_infix (hx : T.get x.rule = none) (hy : T.get y.rule = none)
    (hp : T.get p.rule = some (.prefixOp, pp)) (ho : infixPrec T o = some (po, ra)) (h0 : 0 < po) (hlt : po < pp) :
    Pratt.parse T [p, x, o, y] = .ok (.bin (.pre p (.prim x)) o (.prim y)) := by
  have ho' := infixPrec_get ho
  have hge : ¬ pp - 1 < po := by omega
  cases ra <;> simp only [if_true, if_false, Bool.false_eq_true] at ho' <;>
    simp [Pratt.parse, Pratt.expr, Pratt.nud, Pratt.loop, hx, hy, hp, ho', h0, hge]

/-- the operand of a prefix operator is parsed with binding power `pp - 1`: a postfix operator above it goes inside -/
theorem parse_prefix_postfix (hx : T.get x.rule = none) (hp : T.get p.rule = some (.prefixOp, pp))
    (hq : T.get q.rule = some (.postfixOp, pq)) (h0 : 0 < pq) :
    Pratt.parse T [p, x, q] = .ok (if pp - 1 < pq then .pre p (.post (.prim x) q) else .post (.pre p (.prim x)) q) := by
  by_cases h : pp - 1 < pq <;> simp [Pratt.parse, Pratt.expr, Pratt.nud, Pratt.loop, hx, hp, hq, h0, h]

/-- the right operand of a binary operator is parsed with binding power `rbpOf po ra`: a postfix operator above it
    goes to the right operand, any other to the whole -/
theorem parse_infix_postfix (hx : T.get x.rule = none) (hy : T.get y.rule = none)
    (ho : infixPrec T o = some (po, ra)) (hq : T.get q.rule = some (.postfixOp, pq)) (h0 : 0 < po) (h0' : 0 < pq) :
    Pratt.parse T [x, o, y, q] =
      .ok (if rbpOf po ra < pq then .bin (.prim x) o (.post (.prim y) q) else .post (.bin (.prim x) o (.prim y)) q) := by
  have ho' := infixPrec_get ho
  cases ra <;> simp only [rbpOf, if_true, if_false, Bool.false_eq_true] at ho' ⊢
  · by_cases h : po < pq <;> simp [Pratt.parse, Pratt.expr, Pratt.nud, Pratt.loop, hx, hy, hq, ho', h0, h0', h]
  · by_cases h : po - 1 < pq <;> simp [Pratt.parse, Pratt.expr, Pratt.nud, Pratt.loop, hx, hy, hq, ho', h0, h0', h]

end Affixes

/-! ## a Boolean test for the hypothesis -/

theorem infixPrec_mem {T : Table} {o : Tok} {p : Nat} {ra : Bool} (h : infixPrec T o = some (p, ra)) :
    (o.rule, (if ra then Affix.infixR else Affix.infixL), p) ∈ T := by
  obtain ⟨l₁, l₂, e, _⟩ := List.lookup_eq_some_iff.mp (infixPrec_get h)
  rw [e]; simp

def infixAssoc : Affix → Option Bool
  | .infixL => some false
  | .infixR => some true
  | _ => none

/-- every infix row has a positive precedence, and two infix rows of one precedence have one associativity -/
def uniformB (T : Table) : Bool :=
  T.all fun r1 => T.all fun r2 =>
    match infixAssoc r1.2.1, infixAssoc r2.2.1 with
    | some a1, some a2 => 0 < r1.2.2 && (r1.2.2 != r2.2.2 || a1 == a2)
    | _, _ => true

theorem uniform_of_uniformB (T : Table) (h : uniformB T = true) : Uniform T := by
  -- the test at the rows of two infix operators
  have key : ∀ {o1 o2 p1 p2 ra1 ra2}, infixPrec T o1 = some (p1, ra1) → infixPrec T o2 = some (p2, ra2) →
      0 < p1 ∧ (p1 = p2 → ra1 = ra2) := by
    intro o1 o2 p1 p2 ra1 ra2 h1 h2
    have := List.all_eq_true.mp (List.all_eq_true.mp h _ (infixPrec_mem h1)) _ (infixPrec_mem h2)
    cases ra1 <;> cases ra2 <;> simpa [infixAssoc] using this
  exact ⟨fun _ _ _ _ _ h1 h2 => (key h1 h2).2 rfl, fun _ _ _ h1 => (key h1 h1).1⟩

end Ssl.C14
