import SslModel.Thm.C01Steps
/-!
# C01 / C02 (stage 3) — soundness and progress with functions

The induction over a level read at level `F`, where nothing is asked of the store: `CF.eval_outcome` holds for ALL
stores.  The checker model is `CheckF.tyF` (anonymous functions, declarations recursive through their own name, calls on
operands of a function type, `return`; stream `fragment-fn-types` of tools/props/c01.py).  A call can be analysed because
a function value is good only if its body was accepted in a static environment its captured values respect: the
arguments lie below the callee's own parameter types by contravariance of `matches` on function types, a `return`ed value
is caught with the declared result type, and the body falls off its end only if `()` is a result (`MissingReturn`).
(Beside Thm/C01Outcomes and not in it: statements with like-shaped `match`es share auxiliaries within a module, and
`CF.program_outcome` is to elaborate on its own.)
-/
namespace Ssl.CF
open Ssl Ssl.Ty Ssl.Val Ssl.Spec Ssl.Check Ssl.CheckF Ssl.C01

-- the statement keeps the side condition on `ret`, which the induction does not use
set_option linter.unusedVariables false in
/-- **soundness and progress with functions**: for an expression the function-extended checker model types, the reference
    evaluator - with any fuel, from any store, in any environment whose variables hold good values (`Good`) with tags
    below their static types - ends in a value whose tag lies below the type and which inhabits it by contents, or in a
    documented run-time error, or runs out of fuel, or `return`s a value of the enclosing function's result type; it
    never reaches `wrong`, and no `break` / `continue` escapes -/
theorem eval_outcome (f : Nat) (ret : Option Ty) (g : TEnv) (env : Env) (e : Expr) (T : Ty) (σ : St)
    (henv : EnvOkG env g) (hg : GWf g) (hr : RWf ret) (ht : tyF ret g e = .ok T) :
    OutP ret (fun v => VT T v ∧ hasTy v T = true) (eval f env e σ) :=
  CS.evalX_outcome .F f false ret [] g env e T σ henv hg trivial ht

/-- whole programs from the empty environment: a value of the program's type, a documented error, or fuel - nothing else
    (at top level there is no enclosing function, so `return` is not an outcome either) -/
theorem program_outcome (f : Nat) (prog : List Expr) (T : Ty) (σ : St) (ht : tyFProgram [] prog = .ok T) :
    (match (evalSeq f [[]] prog σ).1 with
     | .ok p => sub p.1.asType T = true ∧ Good p.1
     | .error (.err _) => True
     | .error .fuel => True
     | .error _ => False) := by
  unfold tyFProgram at ht
  obtain ⟨p, hp, h2⟩ := Res.bind_ok ht
  obtain ⟨ts, g'⟩ := p
  cases h2
  have : OutP none (fun p => VT (lastTy ts) p.1 ∧ EnvOkG p.2 g' ∧ GWf g' ∧ ∀ t ∈ ts, eqv t .never = false)
      (evalSeq f [[]] prog σ) := CS.program_seq .F f hp (σ := σ) trivial
  unfold OutP at this
  cases hr : (evalSeq f [[]] prog σ).1 with
  | ok p => rw [hr] at this; exact this.1
  | error sg =>
    rw [hr] at this
    cases sg <;> simp [okSig] at this ⊢


/-- non-vacuity: a recursive declared function with an early `return` in a branch, called at top level -/
def sampleFn : List Expr :=
  [.fndecl "fact" [("n", .int)] .int
     [.ifElse (.bin .le (.var "n") (.litInt 1)) (.block [.ret (some (.litInt 1))]) none,
      .ret (some (.bin .mul (.var "n") (.call (.var "fact") [.bin .sub (.var "n") (.litInt 1)])))],
   .call (.var "fact") [.litInt 5]]

example : tyFProgram [] sampleFn = .ok .int := by
  simp [tyFProgram, sampleFn, tyFSeq, tyFStmt, tyF, tyFList, Res.bind, okW, binTy, TEnv.lookup, bindParams, wfParams, argsOk,
    lastTy, pairTy, accNum, concat, wf, wfL, eqv, sub, anyMatch, matchesL, 
    ]

end Ssl.CF
