import SslModel.Lemmas.TyJoin
/-!
# C10 — the subtype relation (`Type::matches`) obeys its laws

Statements are about `Ssl.Ty.sub`, the hand model of `Type::matches` (arms in source order), `eqv`
(`==` with set / map semantics for unions / structs) — for **all** types, or all well-formed types
(`wf`: unions have ≥ 2 pairwise different members none of which is a union, `any` or `!`; struct
keys are distinct — exactly what `from_str`, `|` and the checker can build).
Every clause of the property is a theorem about the model below (transitivity of `matches` by induction on
the type in the middle, symmetry of `==` by counting members and keys); soundness for values is
`C01.matches_sound`.  The model is tied to `src/variable/type.rs` by the `type` stream, which also
evaluates all laws on the real Type API.
-/
namespace Ssl.C10
open Ssl Ssl.Ty

theorem eqv_refl (t : Ty) (hw : wf t = true) : eqv t t = true := Ty.eqv_refl t hw

theorem matches_refl (t : Ty) (hw : wf t = true) : sub t t = true := Ty.sub_refl t hw

theorem never_least (t : Ty) : sub .never t = true := Ty.sub_never t

theorem any_greatest (t : Ty) : sub t .any = true := Ty.sub_any t

theorem array_covariant (a b : Ty) : sub (.arr a) (.arr b) = sub a b := Ty.sub_arr a b

theorem tuple_covariant_cons (a b : Ty) (as bs : List Ty) :
    sub (.tup (a :: as)) (.tup (b :: bs)) = (sub a b && sub (.tup as) (.tup bs)) := by
  rw [sub_tup, sub_tup, matchesL_cons]

theorem tuple_length_mismatch (a : Ty) (as : List Ty) :
    sub (.tup (a :: as)) (.tup []) = false ∧ sub (.tup []) (.tup (a :: as)) = false := by
  rw [sub_tup, sub_tup]; exact ⟨matchesL_cons_nil a as, matchesL_nil_cons a as⟩

/-- parameters contravariant, result covariant -/
theorem func_contra_co (p q r s : Ty) :
    sub (.fn [p] r) (.fn [q] s) = (sub q p && sub r s) := by
  rw [sub_fn, matchesParams_eq, matchesL_cons, matchesL_nil, Bool.and_true]

theorem func_arity (p r s : Ty) : sub (.fn [p] r) (.fn [] s) = false := by
  rw [sub_fn, matchesParams_eq, matchesL_nil_cons, Bool.false_and]

/-- `mut` is invariant: cells match exactly when their contents are equal types -/
theorem cell_invariant (a b : Ty) : sub (.cell a) (.cell b) = eqv a b := Ty.sub_cell a b

/-- width and depth subtyping of structs: every field demanded by the supertype is present in the
    subtype with a matching type; extra fields are allowed -/
theorem struct_width_depth (fa fb : List (String × Ty)) :
    sub (.struct fa) (.struct fb) = true ↔
      ∀ p ∈ fb, ∃ t1, lookupF p.1 fa = some t1 ∧ sub t1 p.2 = true := by
  rw [sub_struct, structMatches_iff]
  exact forall_congr' fun p => imp_congr_right fun _ => fieldMatches_iff fa p.1 p.2

/-- a union lies below exactly the types all its members lie below -/
theorem union_least (ms : List Ty) (c : Ty) :
    sub (.multi ms) c = ms.all (fun m => sub m c) := by
  rw [sub_multi_left, allMatch_eq]

/-- a union is an upper bound of its members -/
theorem union_upper (ms : List Ty) (m : Ty) (hw : wf (.multi ms) = true) (hm : m ∈ ms) :
    sub m (.multi ms) = true := Ty.member_below_union ms hw m hm

/-- below a union means below one of its members (for a non-union, non-`!` left side) -/
theorem below_union (a : Ty) (ms : List Ty) (h1 : isMulti a = false) (h2 : isNever a = false) :
    sub a (.multi ms) = ms.any (fun m => sub a m) := by
  rw [sub_multi_right a ms h1 h2, anyMatch_eq]

-- the statement keeps hypotheses of well-formedness that its proof does not use (so do the two on `==` below)
set_option linter.unusedVariables false in
/-- **`matches` is transitive** (stated for well-formed types; it holds of all types: `Ty.sub_trans`) -/
theorem matches_trans (a b c : Ty) (wa : wf a = true) (wb : wf b = true) (wc : wf c = true)
    (h1 : sub a b = true) (h2 : sub b c = true) : sub a c = true :=
  Ty.sub_trans a b c h1 h2

/-- `==` is transitive (all types) -/
theorem eqv_trans (a b c : Ty) (h1 : eqv a b = true) (h2 : eqv b c = true) : eqv a c = true :=
  Ty.eqv_trans a b c h1 h2

/-- `==` is symmetric on well-formed types: with `eqv_refl` and `eqv_trans`, `==` is an equivalence relation -/
theorem eqv_symm (a b : Ty) (wa : wf a = true) (wb : wf b = true) (h : eqv a b = true) : eqv b a = true :=
  Ty.eqv_symm a b wa wb h

/-- equal types match each other, and `matches` cannot tell equal types apart -/
theorem eq_implies_matches (a b : Ty) (wa : wf a = true) (wb : wf b = true) (h : eqv a b = true) : sub a b = true :=
  Ty.sub_of_eqv a b wa wb h

set_option linter.unusedVariables false in
theorem matches_respects_eq_left (a a' b : Ty) (wa : wf a = true) (wa' : wf a' = true) (wb : wf b = true)
    (he : eqv a a' = true) (h : sub a b = true) : sub a' b = true := Ty.sub_congr_left a a' b wa wa' he h

set_option linter.unusedVariables false in
theorem matches_respects_eq_right (a b b' : Ty) (wa : wf a = true) (wb : wf b = true) (wb' : wf b' = true)
    (he : eqv b b' = true) (h : sub a b = true) : sub a b' = true := Ty.sub_congr_right a b b' wb wb' he h

/-- `concat` (what `|` builds; the checker's join of branches, elements, results) is an upper bound of its operands -/
theorem concat_upper_bound (a b : Ty) (wa : wf a = true) (wb : wf b = true) :
    sub a (concat a b) = true ∧ sub b (concat a b) = true := Ty.concat_upper a b wa wb

/-- `concat` is the least upper bound -/
theorem concat_least_upper_bound (a b c : Ty) (wa : wf a = true) (wb : wf b = true)
    (ha : sub a c = true) (hb : sub b c = true) : sub (concat a b) c = true := Ty.concat_least a b c wa wb ha hb

/-- `concat` of well-formed types is well-formed -/
theorem concat_wellformed (a b : Ty) (wa : wf a = true) (wb : wf b = true) : wf (concat a b) = true :=
  Ty.concat_wf a b wa wb

/-- **the meet used to intersect parameter types is a lower bound of its arguments** -/
theorem meet_lower_bound (a b : Ty) (wa : wf a = true) (wb : wf b = true) :
    sub (conjoin a b) a = true ∧ sub (conjoin a b) b = true := Ty.conjoin_lower a b wa wb

theorem meet_wellformed (a b : Ty) (wa : wf a = true) (wb : wf b = true) : wf (conjoin a b) = true :=
  Ty.conjoin_wf a b wa wb

/-- the meet of two function types takes the join of the parameters: `(int)->int ∧ (string)->int` -/
example : conjoin (.fn [.int] .int) (.fn [.str] .int) = .fn [.multi [.int, .str]] .int := by
  rw [conjoin.eq_def]; simp [eqv, eqvL, conjoin, concat, List.zipWith]

/-- between non-union types (left not `!`, right not `any`) only types built by the same constructor match -/
theorem matches_same_constructor {a b : Ty} (ha1 : isMulti a = false) (ha2 : isNever a = false)
    (hb1 : isMulti b = false) (hb2 : b ≠ .any) (h : sub a b = true) : head a = head b :=
  Ty.sub_head ha1 ha2 hb1 hb2 h

/-- a chain through a union: below a member, hence below everything the union is below -/
example : sub (.arr .int) (.multi [.arr (.multi [.int, .str]), .str]) = true ∧
    sub (.multi [.arr (.multi [.int, .str]), .str]) (.multi [.str, .arr .any]) = true := by
  constructor <;> simp [sub, allMatch, anyMatch, eqv]

/-! ## non-vacuity: a nested well-formed type meeting the hypotheses -/
def sample : Ty :=
  .cell (.multi [.fn [.multi [.int, .float]] (.multi [.str, .void]), .int,
                 .struct [("a", .arr .never), ("b", .tup [.any, .bool])]])

example : wf sample = true := by
  simp [sample, wf, wfL, wfF, membersOk, nodupL, nodupKeys, memL, eqv]

end Ssl.C10
