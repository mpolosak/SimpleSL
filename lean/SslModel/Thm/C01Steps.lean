import SslModel.Thm.C01StepExpr
/-!
# C01 / C02 (stages 3 and 4) — the other steps of the induction, and the induction

One more unit of fuel for the other functions of the evaluator: lists, optional bounds, statements and statement lists
(the only place where the environment grows), match arms, calls (`step_F`: the callee's environment respects the
environment the body was checked in, a `return` is caught with the declared result type, falling off the end yields
`()`), and, at the store-typed level only, loops, struct fields and iterators.  `allAt` is the induction on the fuel.
-/
namespace Ssl.CS
open Ssl Ssl.Ty Ssl.Val Ssl.Spec Ssl.Check Ssl.CheckF Ssl.CheckS Ssl.C01
open Ssl.CF (gwf_cons gwf_bodyEnv)
variable {S : STy}

theorem step_L (f : Nat) (hE : PE f) (hL : PL f) : PL (f + 1) := by
  refine Sound.of_all fun l lp ret S g env es σ henv hg hst => ?_
  cases es with
  | nil =>
    simp only [tyXList_nil, evalList]
    exact .ok (outPX_pure hst ⟨by simp [asTypeL, matchesL], by simp⟩)
  | cons e es =>
    simp only [tyXList_cons]
    rw [C07.list_left_to_right]
    refine hE.bindT henv hg hst fun t hte v σ1 S hle hst henv hv => ?_
    refine hL.bindT henv hg hst fun ts hts vs σ2 S hle hst henv hvs => .ok (outPX_pure hst ?_)
    replace hv := vtX_mono hle hv
    refine ⟨by simp [asTypeL, matchesL, hv.1, hvs.1], fun z hz => ?_⟩
    rcases List.mem_cons.mp hz with rfl | hz
    · exact hv.2
    · exact hvs.2 z hz

theorem step_O (f : Nat) (hE : PE f) : PO (f + 1) := by
  refine Sound.of_all fun l lp ret S g env o σ henv hg hst => ?_
  cases o with
  | none =>
    simp only [tyXOpt_none, evalOpt]
    exact .ok (outPX_pure hst trivial)
  | some e =>
    simp only [tyXOpt_some, evalOpt]
    exact hE.bindT henv hg hst fun t hte v σ1 S hle hst henv hv => .ok (outPX_pure hst hv)

theorem step_V (f : Nat) (hE : PE f) : PV (f + 1) := by
  intro l lp ret S g env e T σ henv hg hst ht
  simp only [evalStmtValue]
  exact hE l lp ret S g env e T σ henv hg hst ht

theorem step_St (f : Nat) (hE : PE f) (hV : PV f) : PSt (f + 1) := by
  refine Sound.of_all fun l lp ret S g env s σ henv hg hst => ?_
  cases hd : Fold.isDecl s with
  | false =>
    rw [tyXStmt_notDecl l lp ret g s hd, Fold.evalStmt_notDecl f env s hd]
    exact hE.bindT henv hg hst fun t hte v σ1 S hle hst henv hv =>
      .ok (outPX_pure hst ⟨hv, henv, hg⟩)
  | true =>
    cases s with
    | set x e =>
      simp only [tyXStmt_set, evalStmt]
      exact hV.bindT henv hg hst fun t hte v σ1 S hle hst henv hv =>
        .ok (outPX_pure hst ⟨hv, EnvRel.insert henv x hv, gwf_cons g x t hg (tyX_wf l lp ret g e t hte)⟩)
    | destruct xs e =>
      refine tyXStmt_S_only (by unfold tyFStmt; rfl) fun hl => ?_
      subst hl
      simp only [tySStmt, evalStmt]
      refine hV.bindT (l := .S) henv hg hst fun te hte v σ1 S hle hst henv hv => ?_
      have wte := tyS_wf lp ret g e te hte
      cases te with
      | tup ts =>
        refine .iteP (fun _ => .ok ?_) fun _ => .ill
        obtain ⟨vs, rfl, hl⟩ := vtX_tuple (l := .S) hv
        have wts : wfL ts = true := wte
        obtain ⟨h1, h2⟩ := envOkG_bindAll xs ts vs env g henv hg wts hl.1 hl.2
        exact outPX_pure hst ⟨hv, h1, h2⟩
      | multi ms =>
        refine .iteP (fun _ => .ill) fun _ => ?_
        cases tupleLen (.multi ms) with
        | none => exact .ill
        | some len =>
          refine .iteP (fun _ => ?_) fun _ => .ill
          cases hq : flattenTuple (.multi ms) with
          | none => exact .unsup
          | some ts =>
            refine .ok ?_
            have wl := wfL_of_multi wte
            obtain ⟨wts, hmem⟩ := flattenTuple_upper ms ts wl hq
            obtain ⟨m, hm, hvm⟩ := vt_member hv
            obtain ⟨es, rfl, hes⟩ := hmem m hm
            obtain ⟨vs, rfl, hl⟩ := vtX_tuple (l := .S) hvm
            have hmt := matchesL_argsOk _ es ts hl.1 hes
            obtain ⟨h1, h2⟩ := envOkG_bindAll xs ts vs env g henv hg wts hmt hl.2
            exact outPX_pure hst ⟨hv, h1, h2⟩
      | never => exact .unsup
      | _ => exact .ill
    | fndecl x ps rt body =>
      simp only [tyXStmt_fndecl, evalStmt]
      refine .iteP (fun _ => .unsup) fun hwf => .bind fun ⟨ts, g''⟩ hp => .iteP (fun _ => .ill) fun hmr => .ok ?_
      have hwf' : wfParams ps = true ∧ wf rt = true := by simpa using hwf
      have wft : wf (Ty.fn (ps.map (·.2)) rt) = true := by simp [wf, wfL_of_wfParams ps hwf'.1, hwf'.2]
      refine outPX_bindEnv (outPX_freshId l lp ret S σ hst) henv fun id σ1 S hle hst henv _ => ?_
      apply outPX_pure hst
      have gfv := closure_good henv hg id ps rt body (some x) hwf'.1 hwf'.2 (by simpa [bodyEnv] using hp) hmr
      have vt : VTX l S (Ty.fn (ps.map (·.2)) rt) (Val.fn id ps rt body env.snapshot (some x)) :=
        ⟨by simp only [asType]; exact sub_refl _ wft, gfv⟩
      exact ⟨vt, EnvRel.insert henv x vt, gwf_cons g x _ hg wft⟩
    | _ => cases hd

theorem step_S (f : Nat) (hSt : PSt f) (hS : PS f) : PS (f + 1) := by
  intro l lp ret S g env body p σ henv hg hst ht
  obtain ⟨ts, g'⟩ := p
  match body with
  | [] =>
    simp only [tyXSeq_nil] at ht; cases ht
    simp only [evalSeq]
    exact outPX_pure hst ⟨⟨by simp [lastTy, asType, sub, eqv], (goodX_inv l _).unit⟩, henv, hg, by simp⟩
  | [s] =>
    simp only [tyXSeq_nil, tyXSeq_cons] at ht
    obtain ⟨p, hp, h2⟩ := Res.bind_ok ht
    obtain ⟨t1, g1⟩ := p
    simp only [Res.bind] at h2
    cases h2
    simp only [evalSeq]
    exact outPX_mono (hSt l lp ret S g env s (t1, g') σ henv hg hst hp)
      (fun _ p _ ⟨h1, h2, h3⟩ => ⟨h1, h2, h3, by
        intro t ht'
        simp only [List.mem_singleton] at ht'
        subst ht'
        exact not_never_of_tag h1.1⟩)
  | s :: s2 :: rest =>
    simp only [tyXSeq_cons] at ht
    obtain ⟨p, hp, h2⟩ := Res.bind_ok ht
    obtain ⟨t1, g1⟩ := p
    simp only [] at h2
    obtain ⟨q, hq, h3⟩ := Res.bind_ok h2
    obtain ⟨ts', g2⟩ := q
    cases h3
    simp only [evalSeq]
    refine hSt.bind henv hg hst hp fun r σ1 S hle hst henv hr1 => ?_
    obtain ⟨w, env1⟩ := r
    obtain ⟨hw, henv1, hg1⟩ := hr1
    have hq' : tyXSeq l lp ret g1 (s2 :: rest) = .ok (ts', g2) := by
      simp only [tyXSeq_cons]; exact hq
    refine outPX_mono (hS l lp ret S g1 env1 (s2 :: rest) (ts', g2) σ1 henv1 hg1 hst hq') ?_
    intro S2 p hle2 ⟨h1, h2, h3, h4⟩
    refine ⟨?_, h2, h3, ?_⟩
    · cases ts' with
      | nil =>
        -- a non-empty statement list has at least one type
        obtain ⟨p2, _, hh⟩ := Res.bind_ok hq
        obtain ⟨q2, _, hh2⟩ := Res.bind_ok hh
        cases hh2
      | cons t2 ts2 => exact h1
    · intro t ht'
      rcases List.mem_cons.mp ht' with rfl | ht'
      · exact not_never_of_tag hw.1
      · exact h4 t ht'

theorem step_C (f : Nat) (hE : PE f) (hC : PC f) : PC (f + 1) := by
  intro v l lp ret S g env cands ts σ henv hg hst ht
  cases cands with
  | nil => simp only [candGo]; exact outPX_pure hst trivial
  | cons c cs =>
    simp only [tyXList_cons] at ht
    obtain ⟨t, htc, h2⟩ := Res.bind_ok ht
    obtain ⟨ts', hts, _⟩ := Res.bind_ok h2
    simp only [candGo]
    refine hE.bind henv hg hst htc fun w σ1 S hle hst henv _ => ?_
    by_cases hq : veq w v = true
    · simp only [hq, if_true]; exact outPX_pure hst trivial
    · simp only [hq, Bool.false_eq_true, if_false]
      exact hC v l lp ret S g env cs ts' σ1 henv hg hst hts

theorem step_A (f : Nat) (hE : PE f) (hC : PC f) (hA : PA f) : PA (f + 1) := by
  intro l lp ret S g env v arms tys σ henv hg hst gv ht hex
  cases arms with
  | nil => obtain ⟨k, hk, _⟩ := hex; simp [armKinds] at hk
  | cons arm rest =>
    -- an arm that does not fire leaves the coverage to the arms after it
    have rest_covers : ∀ {k0 : ArmKind}, (∃ k ∈ k0 :: armKinds rest, armCovers k v.asType = true) →
        armCovers k0 v.asType ≠ true → ∃ k ∈ armKinds rest, armCovers k v.asType = true := by
      intro k0 ⟨k, hk, hc⟩ h0
      rcases List.mem_cons.mp hk with rfl | hk
      · exact absurd hc h0
      · exact ⟨k, hk, hc⟩
    cases arm with
    | other body =>
      simp only [tyXArms_other] at ht
      obtain ⟨tb, htb, h2⟩ := Res.bind_ok ht
      obtain ⟨ts, hts, h3⟩ := Res.bind_ok h2
      cases h3
      simp only [evalArms]
      exact outPX_mono (hE l lp ret S g env body tb σ henv hg hst htb) (fun _ r _ hr' => ⟨tb, by simp, hr'⟩)
    | ty x t body =>
      simp only [tyXArms_ty] at ht
      split at ht
      · cases ht
      · rename_i hwt
        have wt : wf t = true := by simpa using hwt
        obtain ⟨tb, htb, h2⟩ := Res.bind_ok ht
        obtain ⟨ts, hts, h3⟩ := Res.bind_ok h2
        cases h3
        simp only [evalArms]
        by_cases hm : Ty.sub v.asType t = true
        · simp only [hm, if_true]
          exact outPX_mono (hE l lp ret S ((x, t) :: g) ([(x, v)] :: env) body tb σ (EnvRel.bind henv x ⟨hm, gv⟩) (gwf_cons g x t hg wt) hst htb)
            (fun _ r _ hr' => ⟨tb, by simp, hr'⟩)
        · simp only [hm, Bool.false_eq_true, if_false]
          exact outPX_mono (hA l lp ret S g env v rest ts σ henv hg hst gv hts (rest_covers hex hm))
            (fun _ r _ ⟨t', hm', hv'⟩ => ⟨t', by simp [hm'], hv'⟩)
    | val cands body =>
      simp only [tyXArms_val] at ht
      obtain ⟨tcs, htcs, h1⟩ := Res.bind_ok ht
      obtain ⟨tb, htb, h2⟩ := Res.bind_ok h1
      obtain ⟨ts, hts, h3⟩ := Res.bind_ok h2
      cases h3
      simp only [evalArms]
      refine (hC v).bind henv hg hst htcs fun hit σ1 S hle hst henv _ => ?_
      replace gv := goodX_mono hle gv
      cases hit
      · simp only [Bool.false_eq_true, if_false]
        exact outPX_mono (hA l lp ret S g env v rest ts σ1 henv hg hst gv hts (rest_covers hex Bool.false_ne_true))
          (fun _ r _ ⟨t', hm', hv'⟩ => ⟨t', by simp [hm'], hv'⟩)
      · simp only [if_true]
        exact outPX_mono (hE l lp ret S g env body tb σ1 henv hg hst htb) (fun _ r _ hr' => ⟨tb, by simp, hr'⟩)


theorem step_F (f : Nat) (hS : PS f) : PF (f + 1) := by
  intro l lp ret S fv args pts rt σ hst gfv hsub hargs
  cases fv with
  | fn id ps rt' body cap self =>
    obtain ⟨Γ, wp, wr, hΓ, hcap, hgood, ts, g', hty, hmr⟩ := goodX_fn_inv gfv
    simp only [asType] at hsub
    rw [sub] at hsub
    simp only [Bool.and_eq_true] at hsub
    obtain ⟨hparams, hret⟩ := hsub
    have wft : wf (Ty.fn (ps.map (·.2)) rt') = true := by simp [wf, wfL_of_wfParams ps wp, wr]
    have henv : EnvOkGX l S (calleeEnv (Val.fn id ps rt' body cap self) ps cap self args) (bodyEnv self ps rt' Γ) :=
      EnvRel.callee _ ps rt' cap self args Γ (argsRel_of_tags ps pts args hparams hargs.1 hargs.2)
        (fun x _ => ⟨by simp only [asType]; exact sub_refl _ wft, gfv⟩)
        (fun x t hx => by
          obtain ⟨v, hv, hvs⟩ := hcap x t hx
          exact ⟨v, hv, hvs, hgood x t v hx hv⟩)
    have hbodyOut := hS l false (some rt') S (bodyEnv self ps rt' Γ) _ body (ts, g') σ henv
      (gwf_bodyEnv self ps rt' Γ hΓ wp wr) hst hty
    simp only [callFn]
    split
    · -- a native body is not typed by the model
      cases l <;> simp only [tyXSeq, tyFSeq, tyFStmt, tyF, tySSeq, tySStmt, tyS, Res.bind] at hty <;> cases hty
    · refine outPX_callBody l lp ret rt' S _ _ _ σ hbodyOut ?_ (fun S1 v hle hv => vtX_trans hv hret)
      intro S1 p hle ⟨_, _, _, hnever⟩
      -- the body fell off its end: no statement had type `!`, so `()` is a result
      have hvoid : sub Ty.void rt' = true := by
        rcases hmr with h | h
        · exact h
        · exfalso
          simp only [List.any_eq_true] at h
          obtain ⟨t, ht, he⟩ := h
          rw [hnever t ht] at he
          cases he
      exact ⟨sub_trans _ rt' rt (by simpa [asType] using hvoid) hret, (goodX_inv l _).unit⟩
  | _ => unfold asType sub eqv at hsub; cases hsub

theorem step_B (f : Nat) (hE : PE f) : PB (f + 1) := by
  intro lp ret S g env body T σ henv hg hst ht
  have h : OutP true ret S (fun S' v => VT S' T v) (eval f env body σ) := hE .S true ret S g env body T σ henv hg hst ht
  simp only [bodyOnce, tryCatchS]
  rw [bindM_def]
  cases hev : eval f env body σ with
  | mk r σ1 =>
    rw [hev] at h
    cases r with
    | ok v =>
      obtain ⟨S1, hle1, hst1, _⟩ := h
      simp only [OutP, pure]
      exact ⟨S1, hle1, hst1, trivial⟩
    | error sg =>
      simp only [OutP] at h
      cases sg with
      | ret v => simpa [OutP, throwS, okSig] using h
      | brk => obtain ⟨_, S1, hle1, hst1⟩ := h; simp only [OutP, pure]; exact ⟨S1, hle1, hst1, trivial⟩
      | cont => obtain ⟨_, S1, hle1, hst1⟩ := h; simp only [OutP, pure]; exact ⟨S1, hle1, hst1, trivial⟩
      | wrong w => cases h
      | err e => simp [OutP, throwS, okSig]
      | fuel => simp [OutP, throwS, okSig]

/-- what the four loops do after the condition: one run of the body, in an environment that may have grown by the loop's
    own names, then the loop again - under the hypothesis - or `()` -/
theorem PB.again {f : Nat} (hB : PB f) {lp : Bool} {ret : Option Ty} {S : STy} {g gb : TEnv} {env envb : Env} {body : Expr} {T : Ty}
    {σ : St} {again : M Val} (henvb : EnvOkG S envb gb) (hgb : GWf gb) (hst : StoreOk S σ)
    (ht : tyS true ret gb body = .ok T) (henv : EnvOkG S env g)
    (h : ∀ σ1 S1, Ext S S1 → StoreOk S1 σ1 → EnvOkG S1 env g → OutP lp ret S1 (fun S' v => VT S' .void v) (again σ1)) :
    OutP lp ret S (fun S' v => VT S' .void v) ((do let go ← bodyOnce f envb body; if go then again else pure .unit) σ) := by
  refine outPX_bindEnv (l := .S) (hB lp ret S gb envb body T σ henvb hgb hst ht) henv fun go σ1 S1 hle hst1 henv1 _ => ?_
  cases go
  · exact outP_pure hst1 vt_unit
  · exact h σ1 S1 hle hst1 henv1

theorem step_Lp (f : Nat) (hB : PB f) (hLp : PLp f) : PLp (f + 1) := by
  intro lp ret S g env body T σ henv hg hst ht
  simp only [loopGo]
  exact hB.again henv hg hst ht henv fun σ1 S hle hst henv => hLp lp ret S g env body T σ1 henv hg hst ht

theorem step_W (f : Nat) (hE : PE f) (hB : PB f) (hW : PW f) : PW (f + 1) := by
  intro lp ret S g env c body T σ henv hg hst htc ht
  simp only [whileGo]
  refine hE.bind (l := .S) henv hg hst htc fun x σ1 S hle hst henv hx => ?_
  obtain ⟨k, rfl⟩ := vt_bool hx
  simp only [asBool, liftE_ok_bind]
  cases k
  · exact outP_pure hst vt_unit
  · exact hB.again henv hg hst ht henv fun σ3 S hle hst henv => hW lp ret S g env c body T σ3 henv hg hst htc ht

theorem step_WS (f : Nat) (hE : PE f) (hB : PB f) (hWS : PWS f) : PWS (f + 1) := by
  intro lp ret S g env x ty e body T1 T σ henv hg hst wty hte ht
  simp only [whileSetGo]
  refine hE.bind (l := .S) henv hg hst hte fun v σ1 S hle hst henv hv => ?_
  by_cases hm : Ty.sub v.asType ty = true
  · simp only [hm, if_true]
    exact hB.again (EnvRel.bind henv x ⟨hm, hv.2⟩) (gwf_cons g x ty hg wty) hst ht henv
      fun σ2 S hle hst henv => hWS lp ret S g env x ty e body T1 T σ2 henv hg hst wty hte ht
  · simp only [hm, Bool.false_eq_true, if_false]; exact outP_pure hst vt_unit

theorem step_Fo (f : Nat) (hF : PF f) (hB : PB f) (hFo : PFo f) : PFo (f + 1) := by
  intro lp ret S g env x itv body b t T σ henv hg hst hitv hb wt ht
  have e1 := eq_of_eqv_bool hb
  subst e1
  simp only [forGo]
  refine outPX_bindEnv (l := .S) (hF .S lp ret S itv [] [] (.tup [.bool, t]) σ hst hitv.2 hitv.1 ⟨by simp [asTypeL, matchesL], by simp⟩) henv fun r σ1 S hle hst henv hr1 => ?_
  replace hitv := vt_mono hle hitv
  obtain ⟨c, v, rfl, hc, hv⟩ := vt_pair hr1
  obtain ⟨k, rfl⟩ := vt_bool hc
  simp only []
  cases k
  · exact outP_pure hst vt_unit
  · have henvb : EnvOkG S ([(x, v), ("$con", .bool true)] :: env) ((x, t) :: ("$con", .bool) :: g) :=
      EnvRel.insert (EnvRel.bind henv "$con" hc) x hv
    exact hB.again henvb (gwf_cons _ x t (gwf_cons g "$con" .bool hg rfl) wt) hst ht henv
      fun σ2 S hle hst henv => hFo lp ret S g env x itv body .bool t T σ2 henv hg hst (vt_mono hle hitv) hb wt ht

theorem step_Fd (f : Nat) (hE : PE f) (hFd : PFd f) : PFd (f + 1) := by
  intro lp ret S g env fs fts σ henv hg hst ht
  cases fs with
  | nil =>
    simp only [tySFields] at ht; cases ht
    simp only [evalFields]
    exact outP_pure hst (by simp [Rel])
  | cons q es =>
    obtain ⟨k, e⟩ := q
    simp only [tySFields] at ht
    obtain ⟨t, hte, h2⟩ := Res.bind_ok ht
    obtain ⟨ts, hts, h3⟩ := Res.bind_ok h2
    cases h3
    simp only [evalFields]
    refine hE.bind (l := .S) henv hg hst hte fun v σ1 S hle hst henv hv => ?_
    refine outP_bind lp ret S _ _ _ _ σ1 (hFd lp ret S g env es ts σ1 henv hg hst hts) fun vs σ2 S hle hst _ hvs => ?_
    replace hv := vt_mono hle hv
    exact outP_pure hst (by simp only [Rel]; exact ⟨trivial, hv, hvs⟩)

theorem step_Pull (f : Nat) (hF : PF f) : PPull (f + 1) := by
  intro lp ret S it t σ hst hit
  simp only [pull]
  refine outP_bind lp ret S _ _ _ _ σ
    (hF .S lp ret S it [] [] (.tup [.bool, t]) σ hst hit.2 hit.1 ⟨by simp [asTypeL, matchesL], by simp⟩)
    fun r σ1 S hle hst _ hr1 => ?_
  obtain ⟨c, v, rfl, hc, hv⟩ := vt_pair hr1
  obtain ⟨k, rfl⟩ := vt_bool hc
  cases k
  · simp only []
    exact outP_pure hst (by intro x hx; cases hx)
  · simp only []
    exact outP_pure hst (by intro x hx; cases hx; exact hv)

theorem step_Col (f : Nat) (hP : PPull f) (hCol : PCol f) : PCol (f + 1) := by
  intro lp ret S it acc t σ hst hit hacc
  simp only [collectGo]
  refine outP_bind lp ret S _ _ _ _ σ (hP lp ret S it t σ hst hit) fun o σ1 S hle hst _ ho => ?_
  replace hit := vt_mono hle hit
  have hacc2 : ∀ v ∈ acc, VT S t v := fun v hv => vt_mono hle (hacc v hv)
  cases o with
  | none =>
    simp only []
    exact outP_pure hst (by intro v hv; exact hacc2 v (by simpa using hv))
  | some x =>
    simp only []
    exact hCol lp ret S it (x :: acc) t σ1 hst hit (by
      intro v hv
      rcases List.mem_cons.mp hv with rfl | hv
      · exact ho v rfl
      · exact hacc2 v hv)

theorem allAt : ∀ f : Nat, AllAt f
  | 0 => by
    -- without fuel every function of the evaluator is `throwS .fuel`, by its first equation
    constructor <;> (repeat intro _) <;> first | exact outPX_fuel _ _ _ _ _ _ | exact outP_fuel _ _ _ _ _
  | f + 1 =>
    have ih := allAt f
    { expr := step_E f ih
      list := step_L f ih.expr ih.list, opt := step_O f ih.expr, seq := step_S f ih.stmt ih.seq
      stmt := step_St f ih.expr ih.stmtValue, stmtValue := step_V f ih.expr
      arms := step_A f ih.expr ih.cands ih.arms, cands := step_C f ih.expr ih.cands, call := step_F f ih.seq, body := step_B f ih.expr
      loop := step_Lp f ih.body ih.loop, whileL := step_W f ih.expr ih.body ih.whileL, whileSet := step_WS f ih.expr ih.body ih.whileSet
      forL := step_Fo f ih.call ih.body ih.forL, pull := step_Pull f ih.call, collect := step_Col f ih.pull ih.collect
      fields := step_Fd f ih.expr ih.fields }

/-- the outcome theorem at any level: a value the evaluation of a typed expression ends in has its tag below the type and
    inhabits it by contents; `CS.eval_outcome` and `CF.eval_outcome` are this at `S` and at `F` -/
theorem evalX_outcome (l : Lvl) (f : Nat) (lp : Bool) (ret : Option Ty) (S : STy) (g : TEnv) (env : Env) (e : Expr) (T : Ty) (σ : St)
    (henv : EnvOkGX l S env g) (hg : GWf g) (hst : StoreOkX l S σ) (ht : tyX l lp ret g e = .ok T) :
    OutPX l lp ret S (fun S' v => VTX l S' T v ∧ hasTy v T = true) (eval f env e σ) :=
  outPX_mono ((allAt f).expr l lp ret S g env e T σ henv hg hst ht)
    fun _ _ _ hv => ⟨hv, vtX_contents hv⟩

theorem program_seq (l : Lvl) (f : Nat) {prog : List Expr} {ts : List Ty} {g' : TEnv} {σ : St}
    (hp : tyXSeq l false none [] prog = .ok (ts, g')) (hst : StoreOkX l [] σ) :
    OutPX l false none [] (fun S' p => VTX l S' (lastTy ts) p.1 ∧ EnvOkGX l S' p.2 g' ∧ GWf g' ∧ ∀ t ∈ ts, eqv t .never = false)
      (evalSeq f [[]] prog σ) :=
  (allAt f).seq l false none [] [] [[]] prog (ts, g') σ (by intro x t hx; simp [TEnv.lookup] at hx)
    (by intro x t hx; simp [TEnv.lookup] at hx) hst hp

end Ssl.CS
