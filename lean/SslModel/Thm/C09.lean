import SslModel.Model.Seq
/-!
# C09 — indexing, slicing and len agree for all sequences and indices

`Ssl.Seq` models `at::exec` and slyce 0.3.1's `Slice::indices` (with the index conversion done
in `Slicing::exec`) over positions; `pyIndices` is CPython's `PySlice_AdjustIndices` + `range`.
Statements hold for every length `n`, every index and every optional start/stop/step in `Int`.
-/
namespace Ssl.C09
open Ssl.Seq

/-! ## `atIdx`: one closed form, two readings -/

theorem atIdx_eq (n : Nat) (i : Int) :
    atIdx n i = if -(n : Int) ≤ i ∧ i < n then some (if 0 ≤ i then i else i + n).toNat else none := by
  unfold atIdx
  by_cases h0 : 0 ≤ i
  · rw [if_pos h0, if_pos h0]
    simp only [Int.toNat_lt h0, and_iff_right (show -(n : Int) ≤ i by omega)]
  · rw [if_neg h0, if_neg h0, Int.add_comm i n]
    by_cases h1 : (n : Int) + i < 0
    · exact (if_pos h1).trans (if_neg (by omega)).symm
    · exact ((if_neg h1).trans (if_pos ((Int.toNat_lt (by omega)).mpr (by omega)))).trans
        (if_pos ⟨by omega, by omega⟩).symm

theorem at_ok_iff (n : Nat) (i : Int) (k : Nat) :
    atIdx n i = some k ↔ (-(n : Int) ≤ i ∧ i < n ∧ (k : Int) = if 0 ≤ i then i else i + n) := by
  rw [atIdx_eq]
  by_cases h : -(n : Int) ≤ i ∧ i < n
  · have hz : 0 ≤ (if 0 ≤ i then i else i + n) := by split <;> omega
    rw [if_pos h, Option.some.injEq]
    exact ⟨fun hk => ⟨h.1, h.2, by rw [← hk, Int.toNat_of_nonneg hz]⟩, fun hk => by rw [← hk.2.2, Int.toNat_natCast]⟩
  · rw [if_neg h]
    exact ⟨nofun, fun hk => absurd ⟨hk.1, hk.2.1⟩ h⟩

theorem at_err_iff (n : Nat) (i : Int) :
    atIdx n i = none ↔ ¬ (-(n : Int) ≤ i ∧ i < n) := by
  rw [atIdx_eq]
  by_cases h : -(n : Int) ≤ i ∧ i < n
  · rw [if_pos h]; exact ⟨nofun, fun hn => absurd h hn⟩
  · rw [if_neg h]; exact ⟨fun _ => h, fun _ => rfl⟩

/-! ## `sliceIdx`: slyce's bounds are CPython's adjusted bounds

Both are one closed form: the bound counted from the end when negative, then clamped (`toBound_toIndex`, `pyAdjust_some`). -/

theorem clamp_of_le {x lo hi : Int} (h : x ≤ lo) (hl : lo ≤ hi) : clamp x lo hi = lo := by
  rw [clamp, Int.max_eq_right h, Int.min_eq_left hl]

theorem clamp_of_ge {x lo hi : Int} (h : hi ≤ x) : clamp x lo hi = hi :=
  Int.min_eq_right (Int.le_trans h (Int.le_max_left x lo))

theorem clamp_of_mem {x lo hi : Int} (h1 : lo ≤ x) (h2 : x ≤ hi) : clamp x lo hi = x := by
  rw [clamp, Int.max_eq_left h1, Int.min_eq_left h2]

theorem clamp_range (x : Int) {lo hi : Int} (h : lo ≤ hi) : lo ≤ clamp x lo hi ∧ clamp x lo hi ≤ hi :=
  ⟨Int.le_min.mpr ⟨Int.le_max_right x lo, h⟩, Int.min_le_right _ hi⟩

theorem toBound_toIndex (n : Nat) (x lo hi : Int) :
    toBound (toIndex (some x)) n lo hi = some (clamp (if x < 0 then x + n else x) lo hi) := by
  by_cases h : x < 0
  · simp only [toIndex, h, if_true, toBound]
    rw [show (n : Int) - (x.natAbs : Nat) = x + n by omega]
  · simp only [toIndex, h, if_false, toBound]
    rw [Int.toNat_of_nonneg (by omega)]

/-- CPython's adjustment of one bound is a clamp to `lo .. n + lo`, where `lo` is `0` for a forward and `-1` for a
    backward slice: its tests `x + n < 0` and `x ≥ n` differ from the clamp's only where both answer the same -/
theorem adjust_eq_clamp (n x lo hi : Int) (hn : 0 ≤ n) (h0 : -1 ≤ lo) (h1 : lo ≤ 0) (hh : hi = n + lo) :
    (if x < 0 then (if x + n < 0 then lo else x + n) else if x ≥ n then hi else x)
      = clamp (if x < 0 then x + n else x) lo hi := by
  split
  · split
    · exact (clamp_of_le (by omega) (by omega)).symm
    · exact (clamp_of_mem (by omega) (by omega)).symm
  · split
    · exact (clamp_of_ge (by omega)).symm
    · exact (clamp_of_mem (by omega) (by omega)).symm

theorem pyAdjust_some (n : Nat) (x st : Int) (b : Bool) :
    pyAdjust n (some x) st b
      = clamp (if x < 0 then x + n else x) (if st < 0 then -1 else 0) (if st < 0 then (n : Int) - 1 else n) :=
  adjust_eq_clamp n x _ _ (Int.natCast_nonneg n) (by split <;> decide) (by split <;> decide) (by split <;> omega)

/-- `to_bound` with slyce's clamping range and default is `PySlice_AdjustIndices`, whatever the sign of the step;
    the default is the adjustment of an absent bound -/
theorem toBound_eq_pyAdjust (n : Nat) (v : Option Int) (st : Int) (isStart : Bool) :
    (toBound (toIndex v) n (if st < 0 then -1 else 0) (if st < 0 then (n : Int) - 1 else n)).getD
      (pyAdjust n none st isStart) = pyAdjust n v st isStart := by
  cases v with
  | none => rfl
  | some x => rw [toBound_toIndex, pyAdjust_some, Option.getD_some]

theorem sliceIdx_eq_iter (n : Nat) (a b c : Option Int) :
    sliceIdx n a b c
      = iter (n + 1) (pyAdjust n a (c.getD 1) true) (pyAdjust n b (c.getD 1) false) (c.getD 1) := by
  rw [← toBound_eq_pyAdjust n a, ← toBound_eq_pyAdjust n b]
  unfold sliceIdx
  by_cases h : c.getD 1 ≥ 0
  · have h' : ¬ c.getD 1 < 0 := by omega
    simp [pyAdjust, h, h']
  · have h' : c.getD 1 < 0 := by omega
    simp [pyAdjust, h, h']

theorem pyAdjust_range (n : Nat) (v : Option Int) (st : Int) (b : Bool) :
    (if st < 0 then -1 else 0) ≤ pyAdjust n v st b ∧
      pyAdjust n v st b ≤ (if st < 0 then (n : Int) - 1 else n) := by
  have hlh : (if st < 0 then -1 else 0) ≤ (if st < 0 then (n : Int) - 1 else n) := by split <;> omega
  cases v with
  | none => by_cases hs : st < 0 <;> cases b <;> simp only [pyAdjust, hs, if_true, if_false] <;> omega
  | some x => rw [pyAdjust_some]; exact clamp_range _ hlh

theorem slice_step_zero (n : Nat) (a b : Option Int) : sliceIdx n a b (some 0) = [] := by
  simp [sliceIdx_eq_iter, iter]

/-! ## the loop: what it emits lies between its ends; it emits Python's `range` -/

theorem iter_bounds (fuel : Nat) : ∀ (i stop step lo hi : Int),
    (0 < step → lo ≤ i ∧ stop ≤ hi) → (step < 0 → i < hi ∧ lo - 1 ≤ stop) →
    ∀ j ∈ iter fuel i stop step, lo ≤ j ∧ j < hi := by
  induction fuel with
  | zero => intro i stop step lo hi _ _ j hj; simp [iter] at hj
  | succ f ih =>
    intro i stop step lo hi hp hn j hj
    unfold iter at hj
    by_cases hs : step = 0
    · simp [hs] at hj
    · simp only [hs, if_false] at hj
      by_cases hc : (if step ≥ 0 then i < stop else i > stop)
      · simp only [hc, if_true, List.mem_cons] at hj
        rcases hj with rfl | hj
        · split at hc <;> omega
        · exact ih (i + step) stop step lo hi (by split at hc <;> omega) (by split at hc <;> omega) j hj
      · simp [hc] at hj

/-- positions selected by a slice are valid positions: slicing never fails, whatever the bounds -/
theorem slice_in_range (n : Nat) (a b c : Option Int) :
    ∀ j ∈ sliceIdx n a b c, 0 ≤ j ∧ j < n := by
  intro j hj
  rw [sliceIdx_eq_iter] at hj
  have hs := pyAdjust_range n a (c.getD 1) true
  have he := pyAdjust_range n b (c.getD 1) false
  refine iter_bounds _ _ _ _ 0 n ?_ ?_ j hj <;> omega

/-- the arithmetic under `range`'s length, free of direction: a distance `d` walked in strides of `a` -/
theorem stride_count (d a : Int) (ha : 0 < a) (hd : 0 < d) :
    ((d - 1) / a + 1).toNat = (if 0 < d - a then ((d - a - 1) / a + 1).toNat else 0) + 1 := by
  by_cases h : 0 < d - a
  · have e : d - 1 = (d - a - 1) + 1 * a := by omega
    have := Int.ediv_nonneg (a := d - a - 1) (b := a) (by omega) (by omega)
    simp only [h, if_true]
    rw [e, Int.add_mul_ediv_right _ _ (by omega)]
    omega
  · simp only [h, if_false]
    rw [Int.ediv_eq_zero_of_lt (by omega) (by omega)]
    rfl

/-- the recurrence of `range`'s length: the loop condition of `iter`, read on `pyLen` -/
theorem pyLen_rec (i stop step : Int) (hs : step ≠ 0) :
    pyLen i stop step
      = if (if step ≥ 0 then i < stop else i > stop) then pyLen (i + step) stop step + 1 else 0 := by
  unfold pyLen
  by_cases hp : step > 0
  · have h0 : step ≥ 0 := by omega
    have e : stop - (i + step) - 1 = stop - i - step - 1 := by omega
    simp only [hp, h0, if_true, e]
    by_cases hlt : i < stop
    · have c : (i + step < stop) = (0 < stop - i - step) := by simp only [eq_iff_iff]; omega
      simp only [hlt, if_true, c]
      exact stride_count (stop - i) step hp (by omega)
    · simp only [hlt, if_false]
  · have hn : step < 0 := by omega
    have h0 : ¬ step ≥ 0 := by omega
    have e : i + step - stop - 1 = i - stop - -step - 1 := by omega
    simp only [hp, hn, h0, if_true, if_false, e]
    by_cases hgt : stop < i
    · have c : (stop < i + step) = (0 < i - stop - -step) := by simp only [eq_iff_iff]; omega
      simp only [hgt, if_true, c]
      exact stride_count (i - stop) (-step) (by omega) (by omega)
    · simp only [hgt, if_false]

theorem iter_eq_range (stop step : Int) (hs : step ≠ 0) : ∀ (fuel : Nat) (i : Int),
    (0 < step → stop - i ≤ fuel) → (step < 0 → i - stop ≤ fuel) →
    iter fuel i stop step
      = (List.range (pyLen i stop step)).map fun (k : Nat) => i + (k : Int) * step := by
  intro fuel
  induction fuel with
  | zero =>
    intro i hp hn
    rw [pyLen_rec i stop step hs, if_neg (by split <;> omega)]
    rfl
  | succ f ih =>
    intro i hp hn
    rw [pyLen_rec i stop step hs]
    unfold iter
    simp only [hs, if_false]
    by_cases hc : (if step ≥ 0 then i < stop else i > stop)
    · simp only [hc, if_true]
      rw [ih (i + step) (by split at hc <;> omega) (by split at hc <;> omega), List.range_succ_eq_map]
      simp only [List.map_cons, List.map_map]
      congr 1
      · simp
      · apply List.map_congr_left
        intro k _
        simp only [Function.comp, Nat.succ_eq_add_one, Int.natCast_add, Int.add_mul]
        omega
    · simp only [hc, if_false]
      rfl

/-- **slicing selects exactly the positions Python's slice selects** (step 0 selects nothing) -/
theorem slice_eq_python (n : Nat) (a b c : Option Int) : sliceIdx n a b c = pyIndices n a b c := by
  rw [sliceIdx_eq_iter]
  unfold pyIndices
  by_cases hz : c.getD 1 = 0
  · simp [hz, iter]
  · simp only [hz, if_false]
    have hs := pyAdjust_range n a (c.getD 1) true
    have he := pyAdjust_range n b (c.getD 1) false
    apply iter_eq_range _ _ hz <;> omega

end Ssl.C09
