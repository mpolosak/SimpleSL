import SslModel.Thm.C01StoreTyping
/-!
# C01 / C02 (stages 3 and 4) — the two outcome proofs as one, over a level

The theorem with functions (`CF`, checker model `tyF`) holds from ANY store, with no store typing to respect, so it is
no instance of the theorem with cells, loops, unions and structs (`CS`, checker model `tyS`, over a store typing); but the
two are one induction on the fuel over a level `l`: the checker model `tyX l`, the invariant on values `GoodX l S` and
the outcome predicate `OutPX l` are those of `CF` at level `F` and those of `CS` at level `S`, by definition.  What the
induction uses of them is stated here once for both levels: `Val.Inv` for the values, the rules for the outcomes, one
equation of `tyX` per construct, and the statements it proves together.
-/
namespace Ssl.CS
open Ssl Ssl.Ty Ssl.Val Ssl.Spec Ssl.Check Ssl.CheckF Ssl.CheckS Ssl.C01

inductive Lvl where
  | F
  | S

def tyX : Lvl → Bool → Option Ty → TEnv → Expr → Res Ty
  | .F, _, r, g, e => tyF r g e
  | .S, lp, r, g, e => tyS lp r g e
def tyXOpt : Lvl → Bool → Option Ty → TEnv → Option Expr → Res (Option Ty)
  | .F, _, r, g, o => tyFOpt r g o
  | .S, lp, r, g, o => tySOpt lp r g o
def tyXList : Lvl → Bool → Option Ty → TEnv → List Expr → Res (List Ty)
  | .F, _, r, g, es => tyFList r g es
  | .S, lp, r, g, es => tySList lp r g es
def tyXArms : Lvl → Bool → Option Ty → TEnv → List Arm → Res (List Ty)
  | .F, _, r, g, as => tyFArms r g as
  | .S, lp, r, g, as => tySArms lp r g as
def tyXSeq : Lvl → Bool → Option Ty → TEnv → List Expr → Res (List Ty × TEnv)
  | .F, _, r, g, b => tyFSeq r g b
  | .S, lp, r, g, b => tySSeq lp r g b
def tyXStmt : Lvl → Bool → Option Ty → TEnv → Expr → Res (Ty × TEnv)
  | .F, _, r, g, s => tyFStmt r g s
  | .S, lp, r, g, s => tySStmt lp r g s

theorem tyX_wf (l : Lvl) (lp : Bool) (ret : Option Ty) (g : TEnv) (e : Expr) (T : Ty) (h : tyX l lp ret g e = .ok T) :
    wf T = true := by
  cases l
  · exact tyF_wf ret g e T h
  · exact tyS_wf lp ret g e T h

theorem tyXList_wf (l : Lvl) (lp : Bool) (ret : Option Ty) (g : TEnv) (es : List Expr) (ts : List Ty)
    (h : tyXList l lp ret g es = .ok ts) : wfL ts = true := by
  cases l
  · exact tyFList_wf ret g es ts h
  · exact tySList_wf lp ret g es ts h

theorem tyXArms_wf (l : Lvl) (lp : Bool) (ret : Option Ty) (g : TEnv) (arms : List Arm) (tys : List Ty)
    (h : tyXArms l lp ret g arms = .ok tys) : wfL tys = true := by
  cases l
  · exact tyFArms_wf ret g arms tys h
  · exact tySArms_wf lp ret g arms tys h

/-! ### one equation of `tyX` per construct: where `tyF` and `tyS` read the same, `tyX` reads so at every level -/

section
variable (l : Lvl) (lp : Bool) (r : Option Ty) (g : TEnv)

theorem tyX_litBool (b : Bool) : tyX l lp r g (.litBool b) = .ok .bool := by cases l <;> simp only [tyX, tyF, tyS]
theorem tyX_litInt (i : Int) : tyX l lp r g (.litInt i) = .ok .int := by cases l <;> simp only [tyX, tyF, tyS]
theorem tyX_litFloat (x : UInt64) : tyX l lp r g (.litFloat x) = .ok .float := by cases l <;> simp only [tyX, tyF, tyS]
theorem tyX_litStr (s : String) : tyX l lp r g (.litStr s) = .ok .str := by cases l <;> simp only [tyX, tyF, tyS]
theorem tyX_litUnit : tyX l lp r g .litUnit = .ok .void := by cases l <;> simp only [tyX, tyF, tyS]

theorem tyX_var (x : String) : tyX l lp r g (.var x) = (match g.lookup x with | some t => okW t | none => .ill) := by
  cases l <;> simp only [tyX, tyF, tyS] <;> cases TEnv.lookup x g <;> rfl

theorem tyX_array (es : List Expr) : tyX l lp r g (.array es) = (tyXList l lp r g es).bind fun ts => okW (.arr (concatL ts)) := by
  cases l <;> simp only [tyX, tyXList, tyF, tyS]

theorem tyX_tuple (es : List Expr) : tyX l lp r g (.tuple es) =
    if es.length < 2 then .unsup else (tyXList l lp r g es).bind fun ts => okW (.tup ts) := by
  cases l <;> simp only [tyX, tyXList, tyF, tyS]

theorem tyX_not (e : Expr) : tyX l lp r g (.pre .not e) = (tyX l lp r g e).bind fun t => if sub t accNot then okW t else .ill := by
  cases l <;> simp only [tyX, tyF, tyS]

theorem tyX_neg (e : Expr) : tyX l lp r g (.pre .neg e) = (tyX l lp r g e).bind fun t => if sub t accNeg then okW t else .ill := by
  cases l <;> simp only [tyX, tyF, tyS]

theorem tyX_and (a b : Expr) : tyX l lp r g (.and a b) = (tyX l lp r g a).bind fun ta => (tyX l lp r g b).bind fun tb =>
    if eqv ta .bool && eqv tb .bool then .ok .bool else .ill := by
  cases l <;> simp only [tyX, tyF, tyS]

theorem tyX_or (a b : Expr) : tyX l lp r g (.or a b) = (tyX l lp r g a).bind fun ta => (tyX l lp r g b).bind fun tb =>
    if eqv ta .bool && eqv tb .bool then .ok .bool else .ill := by
  cases l <;> simp only [tyX, tyF, tyS]

theorem tyX_bin (op : BinOp) (a b : Expr) : tyX l lp r g (.bin op a b) =
    (tyX l lp r g a).bind fun ta => (tyX l lp r g b).bind fun tb => binTy op ta tb := by
  cases l <;> simp only [tyX, tyF, tyS]

theorem tyX_ifElse (c t : Expr) (e : Option Expr) : tyX l lp r g (.ifElse c t e) = (tyX l lp r g c).bind fun tc =>
    if !(eqv tc .bool || eqv tc .never) then .ill else
    (tyX l lp r g t).bind fun tt =>
    match e with
    | some e => (tyX l lp r g e).bind fun te => okW (concat tt te)
    | none => okW (concat tt .void) := by
  cases l <;> cases e <;> simp only [tyX, tyF, tyS]

theorem tyX_block (body : List Expr) : tyX l lp r g (.block body) = (tyXSeq l lp r g body).bind fun p => okW (lastTy p.1) := by
  cases l <;> simp only [tyX, tyXSeq, tyF, tyS] <;> rfl

theorem tyX_ifSet (x : String) (ty : Ty) (e body : Expr) (els : Option Expr) : tyX l lp r g (.ifSet x ty e body els) =
    if !wf ty then .unsup else
    (tyX l lp r g e).bind fun _ => (tyX l lp r ((x, ty) :: g) body).bind fun tb =>
    match els with
    | some el => (tyX l lp r g el).bind fun tl => okW (concat tb tl)
    | none => okW (concat tb .void) := by
  cases l <;> cases els <;> simp only [tyX, tyF, tyS]

theorem tyX_arrayRepeat (v n : Expr) : tyX l lp r g (.arrayRepeat v n) = (tyX l lp r g v).bind fun tv => (tyX l lp r g n).bind fun tn =>
    if !sub tn .int then .ill else
    if !eqv tn .int then .unsup else okW (.arr tv) := by
  cases l <;> simp only [tyX, tyF, tyS]

theorem tyX_matchE (e : Expr) (arms : List Arm) : tyX l lp r g (.matchE e arms) =
    (tyX l lp r g e).bind fun te => (tyXArms l lp r g arms).bind fun tys =>
    if !(covering (armKinds arms) te) then .ill else okW (concatL tys) := by
  cases l <;> simp only [tyX, tyXArms, tyF, tyS]

theorem tyX_fn (ps : List (String × Ty)) (rt : Ty) (body : List Expr) : tyX l lp r g (.fn ps rt body) =
    if !(wfParams ps && wf rt) then .unsup else
    (tyXSeq l false (some rt) (bindParams ps g) body).bind fun p =>
    if !sub .void rt && !p.1.any (fun t => eqv t .never) then .ill
    else okW (.fn (ps.map (·.2)) rt) := by
  cases l <;> simp only [tyX, tyXSeq, tyF, tyS] <;> rfl

theorem tyX_ret_some (rt : Ty) (e : Expr) : tyX l lp (some rt) g (.ret (some e)) =
    (tyX l lp (some rt) g e).bind fun te => if sub te rt then .ok .never else .ill := by
  cases l <;> simp only [tyX, tyF, tyS]

theorem tyX_ret_none (rt : Ty) : tyX l lp (some rt) g (.ret none) = if sub .void rt then .ok .never else .ill := by
  cases l <;> simp only [tyX, tyF, tyS]

theorem tyX_ret_top (e : Option Expr) : tyX l lp none g (.ret e) = .ill := by
  cases l <;> simp only [tyX, tyF, tyS]

/-- what only `tyS` answers (an operand of a union type): `unsup` with functions only -/
def atS {α} (l : Lvl) (x : Res α) : Res α :=
  match l with
  | .F => .unsup
  | .S => x

theorem atS_ok {α} {x : Res α} {a : α} (h : atS l x = .ok a) : l = .S ∧ x = .ok a := by
  cases l
  · cases h
  · exact ⟨rfl, h⟩

theorem atS_all {α} {x : Res α} {P : α → Prop} (h : l = .S → x.All P) : (atS l x).All P :=
  fun _ e => h (atS_ok l e).1 _ (atS_ok l e).2

theorem tyX_at (a i : Expr) : tyX l lp r g (.at a i) = (tyX l lp r g a).bind fun ta => (tyX l lp r g i).bind fun ti =>
    if !eqv ti .int then .ill else
    match ta with
    | .arr e => okW e
    | .str => .ok .str
    | .multi _ => atS l (if !canBeIndexed ta then .ill else (match indexResult ta with
         | some T => okW T
         | none => .unsup))
    | .never => .unsup
    | _ => .ill := by
  cases l <;> simp only [tyX, tyF, tyS] <;> congr 1 <;> funext ta <;> congr 1 <;> funext ti <;> split <;>
    first | rfl | (cases ta <;> rfl)

theorem tyX_tacc (e : Expr) (n : Nat) : tyX l lp r g (.tacc e n) = (tyX l lp r g e).bind fun t =>
    match t with
    | .tup ts => (match ts[n]? with
      | some x => okW x
      | none => .ill)
    | .multi _ => atS l (if !isTuple t then .ill else
        (match minTupleLen t with
         | some len =>
           if n < len then (match tupleElementAt n t with
             | some T => okW T
             | none => .unsup)
           else .ill
         | none => .unsup))
    | .never => .unsup
    | _ => .ill := by
  cases l <;> simp only [tyX, tyF, tyS] <;> congr 1 <;> funext t <;> cases t <;> rfl

theorem tyX_slice (a : Expr) (st en sp : Option Expr) : tyX l lp r g (.slice a st en sp) = (tyX l lp r g a).bind fun ta =>
    (tyXOpt l lp r g st).bind fun ts => (tyXOpt l lp r g en).bind fun te => (tyXOpt l lp r g sp).bind fun tp =>
    if !canBeIndexed ta then .ill else
    if !(boundOk ts && boundOk te && boundOk tp) then .ill else
    match ta with
    | .arr _ => okW ta
    | .str => .ok .str
    | .multi _ => atS l (okW ta)
    | _ => .unsup := by
  cases l
  · -- `tyF` has no arm for a union operand: it falls under the catch-all
    simp only [tyX, tyXOpt, tyF]
    congr 1
    funext ta
    cases ta <;> rfl
  · simp only [tyX, tyXOpt, tyS]
    rfl

theorem tyX_call (f : Expr) (args : List Expr) : tyX l lp r g (.call f args) =
    (tyX l lp r g f).bind fun tf => (tyXList l lp r g args).bind fun tas =>
    match tf with
    | .fn pts rt => if argsOk tas pts then okW rt else .ill
    | .multi _ => atS l (if !isFunction tf then .ill else
        (match params tf with
         | none => .ill
         | some pts =>
           match returnType tf with
           | some rt => if argsOk tas pts then okW rt else .ill
           | none => .unsup))
    | .never => .unsup
    | .any => .ill
    | _ => .ill := by
  cases l <;> simp only [tyX, tyXList, tyF, tyS] <;> congr 1 <;> funext tf <;> congr 1 <;> funext tas <;> cases tf <;> rfl

theorem tyXOpt_none : tyXOpt l lp r g none = .ok none := by cases l <;> simp only [tyXOpt, tyFOpt, tySOpt]

theorem tyXOpt_some (e : Expr) : tyXOpt l lp r g (some e) = (tyX l lp r g e).bind fun t => .ok (some t) := by
  cases l <;> simp only [tyXOpt, tyX, tyFOpt, tySOpt]

theorem tyXList_nil : tyXList l lp r g [] = .ok [] := by cases l <;> simp only [tyXList, tyFList, tySList]

theorem tyXList_cons (e : Expr) (es : List Expr) : tyXList l lp r g (e :: es) =
    (tyX l lp r g e).bind fun t => (tyXList l lp r g es).bind fun ts => .ok (t :: ts) := by
  cases l <;> simp only [tyXList, tyX, tyFList, tySList]

theorem tyXArms_ty (x : String) (t : Ty) (body : Expr) (rest : List Arm) : tyXArms l lp r g (.ty x t body :: rest) =
    if !wf t then .unsup else
    (tyX l lp r ((x, t) :: g) body).bind fun tb => (tyXArms l lp r g rest).bind fun ts => .ok (tb :: ts) := by
  cases l <;> simp only [tyXArms, tyX, tyFArms, tySArms]

theorem tyXArms_val (cands : List Expr) (body : Expr) (rest : List Arm) : tyXArms l lp r g (.val cands body :: rest) =
    (tyXList l lp r g cands).bind fun _ => (tyX l lp r g body).bind fun tb => (tyXArms l lp r g rest).bind fun ts => .ok (tb :: ts) := by
  cases l <;> simp only [tyXArms, tyXList, tyX, tyFArms, tySArms]

theorem tyXArms_other (body : Expr) (rest : List Arm) : tyXArms l lp r g (.other body :: rest) =
    (tyX l lp r g body).bind fun tb => (tyXArms l lp r g rest).bind fun ts => .ok (tb :: ts) := by
  cases l <;> simp only [tyXArms, tyX, tyFArms, tySArms]

theorem tyXSeq_nil : tyXSeq l lp r g [] = .ok ([], g) := by cases l <;> simp only [tyXSeq, tyFSeq, tySSeq]

theorem tyXSeq_cons (s : Expr) (rest : List Expr) : tyXSeq l lp r g (s :: rest) =
    (tyXStmt l lp r g s).bind fun p => (tyXSeq l lp r p.2 rest).bind fun q => .ok (p.1 :: q.1, q.2) := by
  cases l <;> simp only [tyXSeq, tyXStmt, tyFSeq, tySSeq] <;> rfl

theorem tyXStmt_set (x : String) (e : Expr) : tyXStmt l lp r g (.set x e) = (tyX l lp r g e).bind fun t => .ok (t, (x, t) :: g) := by
  cases l <;> simp only [tyXStmt, tyX, tyFStmt, tySStmt]

/-- the catch-all arm of the statement checkers, as `Fold.evalStmt_notDecl` is that of `evalStmt` -/
theorem tyXStmt_notDecl (s : Expr) (h : Fold.isDecl s = false) :
    tyXStmt l lp r g s = (tyX l lp r g s).bind fun t => .ok (t, g) := by
  cases l
  · exact tyFStmt_notDecl r g s h
  · exact tySStmt_notDecl lp r g s h

theorem tyXStmt_fndecl (x : String) (ps : List (String × Ty)) (rt : Ty) (body : List Expr) : tyXStmt l lp r g (.fndecl x ps rt body) =
    if !(wfParams ps && wf rt) then .unsup else
    (tyXSeq l false (some rt) (bindParams ps ((x, .fn (ps.map (·.2)) rt) :: g)) body).bind fun p =>
    if !sub .void rt && !p.1.any (fun t => eqv t .never) then .ill
    else .ok (.fn (ps.map (·.2)) rt, (x, .fn (ps.map (·.2)) rt) :: g) := by
  cases l <;> simp only [tyXStmt, tyXSeq, tyFStmt, tySStmt] <;> rfl

end

/-! the notions over a level are reducible: a goal stated with the `CS` names (`OutP`, `VT`, `StoreOk`) unifies with a rule stated
    over the level at `l := .S` -/

@[reducible] def GoodX : Lvl → STy → Val → Prop
  | .F, _, v => CF.Good v
  | .S, S, v => Good S v

@[reducible] def VTX (l : Lvl) (S : STy) (T : Ty) (v : Val) : Prop := sub v.asType T = true ∧ GoodX l S v

/-- with functions only, nothing is asked of the store: no construct of that level reads or writes a cell -/
@[reducible] def StoreOkX : Lvl → STy → St → Prop
  | .F, _, _ => True
  | .S, S, σ => StoreOk S σ

@[reducible] def OutPX {α} : Lvl → Bool → Option Ty → STy → (STy → α → Prop) → Except Sig α × St → Prop
  | .F, _, ret, S, P, r => CF.OutP ret (P S) r
  | .S, lp, ret, S, P, r => OutP lp ret S P r

@[reducible] def EnvOkGX (l : Lvl) (S : STy) (env : Env) (g : TEnv) : Prop := EnvRel (VTX l S) env g

def ListOkX (l : Lvl) (S : STy) (Ts : List Ty) (vs : List Val) : Prop :=
  matchesL (asTypeL vs) Ts = true ∧ ∀ v ∈ vs, GoodX l S v

def BodyOkX (l : Lvl) (self : Option String) (ps : List (String × Ty)) (rt : Ty) (body : List Expr) (Γ : TEnv) : Prop :=
  ∃ ts g', tyXSeq l false (some rt) (bodyEnv self ps rt Γ) body = .ok (ts, g') ∧
    (sub .void rt = true ∨ ts.any (fun t => eqv t .never) = true)

variable {l : Lvl} {S : STy}

theorem goodX_inv (l : Lvl) (S : STy) : Val.Inv (GoodX l S) := by
  cases l
  · exact CF.good_inv
  · exact good_inv

theorem goodX_mono {S S' : STy} (h : Ext S S') {v : Val} (hv : GoodX l S v) : GoodX l S' v := by
  cases l
  · exact hv
  · exact good_mono h hv

theorem vtX_mono {S S' : STy} (h : Ext S S') {T : Ty} {v : Val} (hv : VTX l S T v) : VTX l S' T v :=
  ⟨hv.1, goodX_mono h hv.2⟩

theorem optRelX_mono {S S' : STy} (h : Ext S S') {ov : Option Val} {ot : Option Ty} (hl : OptRel (VTX l S) ov ot) :
    OptRel (VTX l S') ov ot := by
  cases ov <;> cases ot <;> simp only [OptRel] at hl ⊢
  exact vtX_mono h hl

theorem tyX_S_only {lp : Bool} {r : Option Ty} {g : TEnv} {e : Expr} {P : Ty → Prop} (hF : tyF r g e = .unsup)
    (h : l = .S → (tyS lp r g e).All P) : (tyX l lp r g e).All P := by
  cases l
  · simp only [tyX, hF]; exact .unsup
  · exact h rfl

theorem tyXStmt_S_only {lp : Bool} {r : Option Ty} {g : TEnv} {s : Expr} {P : Ty × TEnv → Prop} (hF : tyFStmt r g s = .unsup)
    (h : l = .S → (tySStmt lp r g s).All P) : (tyXStmt l lp r g s).All P := by
  cases l
  · simp only [tyXStmt, hF]; exact .unsup
  · exact h rfl

theorem vtX_trans {v : Val} {a b : Ty} (h : VTX l S a v) (hs : sub a b = true) : VTX l S b v :=
  ⟨sub_trans _ a b h.1 hs, h.2⟩

theorem vtX_contents {v : Val} {T : Ty} (h : VTX l S T v) : hasTy v T = true :=
  (goodX_inv l S).hasTy_of_tag h.2 h.1

theorem vtX_bool {v : Val} (h : VTX l S .bool v) : ∃ k, v = .bool k := bool_of_hasTy (vtX_contents h)
theorem vtX_int {v : Val} (h : VTX l S .int v) : ∃ k, v = .int k := int_of_hasTy (vtX_contents h)

theorem vtX_never (v : Val) : ¬ VTX l S .never v := fun h => by simpa [sub_tag_never] using h.1

theorem listOkX_get (Ts : List Ty) (vs : List Val) (h : ListOkX l S Ts vs) (n : Nat) (v : Val) (t : Ty)
    (hv : vs[n]? = some v) (ht : Ts[n]? = some t) : VTX l S t v :=
  ⟨matchesL_get (asTypeL vs) Ts n v.asType t h.1 (asTypeL_get vs n v hv) ht, h.2 v (List.mem_of_getElem? hv)⟩

theorem vtX_tuple {v : Val} {ts : List Ty} (h : VTX l S (.tup ts) v) : ∃ vs, v = .tup vs ∧ ListOkX l S ts vs := by
  obtain ⟨hs, hg⟩ := h
  cases v with
  | tup es => exact ⟨es, rfl, by simpa [asType, Ty.sub_tup] using hs, (goodX_inv l S).tup.mp hg⟩
  | _ => unfold asType sub eqv at hs; cases hs

/-! ### the same at level `S`, under the names the store-typed lemmas use -/

theorem vt_trans {v : Val} {a b : Ty} (h : VT S a v) (hs : sub a b = true) : VT S b v := vtX_trans (l := .S) h hs

theorem vt_contents {v : Val} {T : Ty} (h : VT S T v) : hasTy v T = true := vtX_contents (l := .S) h

theorem vt_bool {v : Val} (h : VT S .bool v) : ∃ k, v = .bool k := vtX_bool (l := .S) h

theorem listOk_get (Ts : List Ty) (vs : List Val) (h : ListOk S Ts vs) (n : Nat) (v : Val) (t : Ty)
    (hv : vs[n]? = some v) (ht : Ts[n]? = some t) : VT S t v := listOkX_get (l := .S) Ts vs h n v t hv ht

theorem vt_pair {v : Val} {a b : Ty} (h : VT S (.tup [a, b]) v) : ∃ x y, v = .tup [x, y] ∧ VT S a x ∧ VT S b y := by
  obtain ⟨vs, rfl, hm, hg⟩ := vtX_tuple (l := .S) h
  match vs, hm, hg with
  | [x, y], hm, hg =>
    simp only [asTypeL, matchesL, Bool.and_eq_true, Bool.and_true] at hm
    exact ⟨x, y, rfl, ⟨hm.1, hg x (by simp)⟩, ⟨hm.2, hg y (by simp)⟩⟩
  | [], hm, _ => simp [asTypeL, matchesL] at hm
  | [_], hm, _ => simp [asTypeL, matchesL] at hm
  | _ :: _ :: _ :: _, hm, _ => simp [asTypeL, matchesL] at hm

theorem outX_bin (op : BinOp) (a b T : Ty) (x y : Val) (hx : VTX l S a x) (hy : VTX l S b y)
    (wa : wf a = true) (wb : wf b = true) (ht : binTy op a b = .ok T) :
    OkOrErr (VTX l S T) (binScalar op x y) :=
  CF.inv_out_bin (goodX_inv l S) op a b T x y hx.1 hx.2 hy.1 hy.2 wa wb ht

theorem goodX_fn (id : Nat) (ps : List (String × Ty)) (rt : Ty) (body : List Expr) (cap : List (String × Val))
    (self : Option String) (Γ : TEnv) (wp : wfParams ps = true) (wr : wf rt = true) (hΓ : GWf Γ)
    (hcap : ∀ x t, Γ.lookup x = some t → ∃ v, frameLookup x cap = some v ∧ sub v.asType t = true)
    (hgood : ∀ x t v, Γ.lookup x = some t → frameLookup x cap = some v → GoodX l S v)
    (hb : BodyOkX l self ps rt body Γ) : GoodX l S (.fn id ps rt body cap self) := by
  cases l
  · exact CF.Good.fn id ps rt body cap self Γ wp wr hΓ hcap hgood hb
  · exact Good.fn id ps rt body cap self Γ wp wr hΓ hcap hgood hb

theorem goodX_fn_inv {id : Nat} {ps : List (String × Ty)} {rt : Ty} {body : List Expr} {cap : List (String × Val)}
    {self : Option String} (h : GoodX l S (.fn id ps rt body cap self)) :
    ∃ Γ, wfParams ps = true ∧ wf rt = true ∧ GWf Γ ∧
      (∀ x t, Γ.lookup x = some t → ∃ v, frameLookup x cap = some v ∧ sub v.asType t = true) ∧
      (∀ x t v, Γ.lookup x = some t → frameLookup x cap = some v → GoodX l S v) ∧ BodyOkX l self ps rt body Γ := by
  cases l
  · cases h with
    | fn _ _ _ _ _ _ Γ a b c d e f => exact ⟨Γ, a, b, c, d, e, f⟩
  · cases h with
    | fn _ _ _ _ _ _ Γ a b c d e f => exact ⟨Γ, a, b, c, d, e, f⟩

theorem outPX_freshId (l : Lvl) (lp : Bool) (ret : Option Ty) (S : STy) (σ : St) (hst : StoreOkX l S σ) :
    OutPX l lp ret S (fun _ _ => True) (freshId σ) := by
  cases l
  · simp [OutPX, CF.OutP, freshId]
  · exact ⟨S, ext_refl S, ⟨hst.1, hst.2⟩, trivial⟩

theorem outPX_ret {α} {l : Lvl} {lp : Bool} {rt : Ty} {S : STy} {P : STy → α → Prop} {v : Val} {σ : St}
    (hst : StoreOkX l S σ) (hv : VTX l S rt v) : OutPX l lp (some rt) S P ((throwS (.ret v) : M α) σ) := by
  cases l
  · exact ⟨rt, rfl, hv⟩
  · exact ⟨rt, S, rfl, ext_refl S, hst, hv⟩

/-- the rule for a call: the body runs outside any loop with the callee's result type; falling off its end yields `()`, a
    `return` yields the returned value, every other admissible signal is passed on -/
theorem outPX_callBody {α} (l : Lvl) (lp : Bool) (ret : Option Ty) (rt' : Ty) (S : STy) (P : STy → α → Prop)
    (Q : STy → Val → Prop) (m : M α) (σ : St) (h : OutPX l false (some rt') S P (m σ))
    (hok : ∀ S1 a, Ext S S1 → P S1 a → Q S1 Val.unit) (hret : ∀ S1 v, Ext S S1 → VTX l S1 rt' v → Q S1 v) :
    OutPX l lp ret S Q (tryCatchS (do let _ ← m; pure Val.unit) retHandler σ) := by
  cases hm : m σ with
  | mk r σ1 =>
    rw [hm] at h
    cases r with
    | ok a =>
      have hb : (do let _ ← m; pure Val.unit : M Val) σ = (.ok Val.unit, σ1) := by rw [Spec.bind_ok hm]; rfl
      rw [tryCatchS_ok hb]
      cases l
      · exact hok S a (ext_refl S) h
      · obtain ⟨S1, hle, hst, hp⟩ := h
        exact ⟨S1, hle, hst, hok S1 a hle hp⟩
    | error sg =>
      have hb : (do let _ ← m; pure Val.unit : M Val) σ = (.error sg, σ1) := Spec.bind_error hm
      rw [tryCatchS_error hb]
      cases l
      · cases sg with
        | ret v => obtain ⟨r2, hr2, hv⟩ := h; cases hr2; exact hret S v (ext_refl S) hv
        | brk => cases h
        | cont => cases h
        | wrong w => cases h
        | err e => trivial
        | fuel => trivial
      · cases sg with
        | ret v => obtain ⟨r2, S1, hr2, hle, hst, hv⟩ := h; cases hr2; exact ⟨S1, hle, hst, hret S1 v hle hv⟩
        | brk => cases h.1
        | cont => cases h.1
        | wrong w => cases h
        | err e => trivial
        | fuel => trivial

theorem outPX_bind {α β} (l : Lvl) (lp : Bool) (ret : Option Ty) (S : STy) (P : STy → α → Prop) (Q : STy → β → Prop)
    (m : M α) (k : α → M β) (σ : St) (h1 : OutPX l lp ret S P (m σ))
    (h2 : ∀ a σ1 S1, Ext S S1 → StoreOkX l S1 σ1 → m σ = (.ok a, σ1) → P S1 a → OutPX l lp ret S1 Q (k a σ1)) :
    OutPX l lp ret S Q ((m >>= k) σ) := by
  cases l
  · cases hm : m σ with
    | mk r σ1 =>
      rw [hm] at h1
      cases r with
      | ok a => rw [Spec.bind_ok hm]; exact h2 a σ1 S (ext_refl S) trivial hm h1
      | error e => rw [Spec.bind_error hm]; exact h1
  · exact outP_bind lp ret S P Q m k σ h1 h2

/-- the rule for `>>=` with the environment: the rest runs in the extended store typing, which the environment still
    respects -/
theorem outPX_bindEnv {α β} {l : Lvl} {lp : Bool} {ret : Option Ty} {S : STy} {P : STy → α → Prop} {Q : STy → β → Prop}
    {m : M α} {k : α → M β} {σ : St} {env : Env} {g : TEnv} (h1 : OutPX l lp ret S P (m σ)) (henv : EnvOkGX l S env g)
    (h2 : ∀ a σ1 S1, Ext S S1 → StoreOkX l S1 σ1 → EnvOkGX l S1 env g → P S1 a → OutPX l lp ret S1 Q (k a σ1)) :
    OutPX l lp ret S Q ((m >>= k) σ) :=
  outPX_bind l lp ret S P Q m k σ h1 (fun a σ1 S1 hle hst _ hp => h2 a σ1 S1 hle hst (EnvRel.mono henv fun _ _ => vtX_mono hle) hp)

theorem outPX_pure {α} {l : Lvl} {lp : Bool} {ret : Option Ty} {S : STy} {P : STy → α → Prop} {a : α} {σ : St}
    (hst : StoreOkX l S σ) (h : P S a) : OutPX l lp ret S P ((pure a : M α) σ) := by
  cases l
  · exact h
  · exact outP_pure hst h

theorem outPX_fuel {α} (l : Lvl) (lp : Bool) (ret : Option Ty) (S : STy) (P : STy → α → Prop) (σ : St) :
    OutPX l lp ret S P ((throwS .fuel : M α) σ) := by
  cases l
  · simp [OutPX, CF.OutP, throwS, CF.okSig]
  · exact outP_fuel lp ret S P σ

theorem outPX_err {α} (l : Lvl) (lp : Bool) (ret : Option Ty) (S : STy) (P : STy → α → Prop) (e : ExecErr) (σ : St) :
    OutPX l lp ret S P ((throwS (.err e) : M α) σ) := by
  cases l
  · simp [OutPX, CF.OutP, throwS, CF.okSig]
  · exact outP_err lp ret S P e σ

theorem outPX_liftE {α} {l : Lvl} {lp : Bool} {ret : Option Ty} {S : STy} {P : STy → α → Prop} {r : Except Sig α} {σ : St}
    (hst : StoreOkX l S σ) (h : OkOrErr (P S) r) : OutPX l lp ret S P (liftE r σ) := by
  cases r with
  | ok a => exact outPX_pure hst h
  | error s => obtain ⟨e, rfl⟩ := h; exact outPX_err l lp ret S P e σ

theorem outPX_mono {α} {l : Lvl} {lp : Bool} {ret : Option Ty} {S : STy} {P Q : STy → α → Prop} {r : Except Sig α × St}
    (h : OutPX l lp ret S P r) (hpq : ∀ S' a, Ext S S' → P S' a → Q S' a) : OutPX l lp ret S Q r := by
  cases l
  · obtain ⟨r1, σ'⟩ := r
    cases r1 with
    | ok a => exact hpq S a (ext_refl S) h
    | error s => exact h
  · exact outP_mono lp ret S P Q r h hpq

theorem outPX_up {l : Lvl} {lp : Bool} {ret : Option Ty} {S : STy} {a b : Ty} {r : Except Sig Val × St}
    (h : OutPX l lp ret S (fun S' v => VTX l S' a v) r) (hs : sub a b = true) :
    OutPX l lp ret S (fun S' v => VTX l S' b v) r :=
  outPX_mono h fun _ _ _ hv => vtX_trans hv hs

/-! ### the statements proved together by induction on the evaluator's fuel

One for each function of the mutually recursive evaluator that the fragment reaches (17 of its twenty: `partitionGo`,
`reduceGo`, `boolGo` serve iterator operators outside it).  Where a function of the checker model stands against a function of
the evaluator the statement is `Sound` of the two: `PE`, `PL`, `PO`, `PS`, `PSt`, `PV`, `PC` (expressions, lists, optional
bounds, statement lists, statements, the value of a statement, the candidates of a value arm); `Sound.bind` and
`Sound.bindT` use any of them on a part.  `PA` (match arms) and `PF` (a call of a good function value, with arguments below
its static parameter types) are over the level too.  `PB` (one run of a loop body, where `break` / `continue` end), `PLp`,
`PW`, `PWS`, `PFo` (the loops), `PFd` (the field initialisers of a struct literal), `PPull` and `PCol` (one pull of an
iterator `() -> (bool, t)`: a value of `t` or the end; collecting it) exist at the store-typed level only. -/

/-- in an environment and a store that respect the static environment and the store typing, what the checker function `ty`
    answers for a piece of syntax bounds, by `R`, the outcome of the evaluator function `ev` on it -/
def Sound {α β γ : Type} (ty : Lvl → Bool → Option Ty → TEnv → α → Res β) (ev : Env → α → M γ)
    (R : Lvl → β → STy → γ → Prop) : Prop :=
  ∀ (l : Lvl) (lp : Bool) (ret : Option Ty) (S : STy) (g : TEnv) (env : Env) (a : α) (b : β) (σ : St),
    EnvOkGX l S env g → GWf g → StoreOkX l S σ → ty l lp ret g a = .ok b → OutPX l lp ret S (R l b) (ev env a σ)

def PE (f : Nat) : Prop := Sound tyX (eval f) fun l T S' v => VTX l S' T v

def PL (f : Nat) : Prop := Sound tyXList (evalList f) fun l Ts S' vs => ListOkX l S' Ts vs

def PO (f : Nat) : Prop := Sound tyXOpt (evalOpt f) fun l ot S' ov => OptRel (VTX l S') ov ot

def PS (f : Nat) : Prop := Sound tyXSeq (evalSeq f) fun l p S' r =>
  VTX l S' (lastTy p.1) r.1 ∧ EnvOkGX l S' r.2 p.2 ∧ GWf p.2 ∧ ∀ t ∈ p.1, eqv t .never = false

def PSt (f : Nat) : Prop := Sound tyXStmt (evalStmt f) fun l p S' r => VTX l S' p.1 r.1 ∧ EnvOkGX l S' r.2 p.2 ∧ GWf p.2

def PV (f : Nat) : Prop := Sound tyX (evalStmtValue f) fun l T S' v => VTX l S' T v

def PA (f : Nat) : Prop := ∀ (l : Lvl) (lp : Bool) (ret : Option Ty) (S : STy) (g : TEnv) (env : Env) (v : Val) (arms : List Arm) (tys : List Ty) (σ : St),
  EnvOkGX l S env g → GWf g → StoreOkX l S σ → GoodX l S v → tyXArms l lp ret g arms = .ok tys →
  (∃ k ∈ armKinds arms, armCovers k v.asType = true) → OutPX l lp ret S (fun S' r => ∃ t ∈ tys, VTX l S' t r) (evalArms f env v arms σ)

def PC (f : Nat) : Prop := ∀ v : Val, Sound tyXList (fun env => candGo f env v) fun _ _ _ _ => True

def PF (f : Nat) : Prop := ∀ (l : Lvl) (lp : Bool) (ret : Option Ty) (S : STy) (fv : Val) (args : List Val) (pts : List Ty) (rt : Ty) (σ : St),
  StoreOkX l S σ → GoodX l S fv → sub fv.asType (.fn pts rt) = true → ListOkX l S pts args →
  OutPX l lp ret S (fun S' v => VTX l S' rt v) (callFn f fv args σ)

def PB (f : Nat) : Prop := ∀ (lp : Bool) (ret : Option Ty) (S : STy) (g : TEnv) (env : Env) (body : Expr) (T : Ty) (σ : St),
  EnvOkG S env g → GWf g → StoreOk S σ → tyS true ret g body = .ok T → OutP lp ret S (fun _ _ => True) (bodyOnce f env body σ)

def PLp (f : Nat) : Prop := ∀ (lp : Bool) (ret : Option Ty) (S : STy) (g : TEnv) (env : Env) (body : Expr) (T : Ty) (σ : St),
  EnvOkG S env g → GWf g → StoreOk S σ → tyS true ret g body = .ok T →
  OutP lp ret S (fun S' v => VT S' .void v) (loopGo f env body σ)

def PW (f : Nat) : Prop := ∀ (lp : Bool) (ret : Option Ty) (S : STy) (g : TEnv) (env : Env) (c body : Expr) (T : Ty) (σ : St),
  EnvOkG S env g → GWf g → StoreOk S σ → tyS lp ret g c = .ok .bool → tyS true ret g body = .ok T →
  OutP lp ret S (fun S' v => VT S' .void v) (whileGo f env c body σ)

def PWS (f : Nat) : Prop := ∀ (lp : Bool) (ret : Option Ty) (S : STy) (g : TEnv) (env : Env) (x : String) (ty : Ty) (e body : Expr) (T1 T : Ty) (σ : St),
  EnvOkG S env g → GWf g → StoreOk S σ → wf ty = true → tyS lp ret g e = .ok T1 → tyS true ret ((x, ty) :: g) body = .ok T →
  OutP lp ret S (fun S' v => VT S' .void v) (whileSetGo f env x ty e body σ)

def PFo (f : Nat) : Prop := ∀ (lp : Bool) (ret : Option Ty) (S : STy) (g : TEnv) (env : Env) (x : String) (itv : Val) (body : Expr) (b t T : Ty) (σ : St),
  EnvOkG S env g → GWf g → StoreOk S σ → VT S (.fn [] (.tup [b, t])) itv → eqv b .bool = true → wf t = true →
  tyS true ret ((x, t) :: ("$con", .bool) :: g) body = .ok T →
  OutP lp ret S (fun S' v => VT S' .void v) (forGo f env x itv body σ)

def PFd (f : Nat) : Prop := ∀ (lp : Bool) (ret : Option Ty) (S : STy) (g : TEnv) (env : Env) (fs : List (String × Expr)) (fts : List (String × Ty)) (σ : St),
  EnvOkG S env g → GWf g → StoreOk S σ → tySFields lp ret g fs = .ok fts →
  OutP lp ret S (fun S' vs => Rel S' fts vs) (evalFields f env fs σ)

def PPull (f : Nat) : Prop := ∀ (lp : Bool) (ret : Option Ty) (S : STy) (it : Val) (t : Ty) (σ : St),
  StoreOk S σ → VT S (.fn [] (.tup [.bool, t])) it →
  OutP lp ret S (fun S' o => ∀ x, o = some x → VT S' t x) (pull f it σ)

def PCol (f : Nat) : Prop := ∀ (lp : Bool) (ret : Option Ty) (S : STy) (it : Val) (acc : List Val) (t : Ty) (σ : St),
  StoreOk S σ → VT S (.fn [] (.tup [.bool, t])) it → (∀ v ∈ acc, VT S t v) →
  OutP lp ret S (fun S' vs => ∀ v ∈ vs, VT S' t v) (collectGo f it acc σ)

structure AllAt (f : Nat) : Prop where
  expr : PE f
  list : PL f
  opt : PO f
  seq : PS f
  stmt : PSt f
  stmtValue : PV f
  arms : PA f
  cands : PC f
  call : PF f
  body : PB f
  loop : PLp f
  whileL : PW f
  whileSet : PWS f
  forL : PFo f
  pull : PPull f
  collect : PCol f
  fields : PFd f

/-! ### a typed sub-expression under the induction hypothesis, then the rest -/

/-- the typing equation binds the type of a part and the evaluator its value: both binds at once, with the outcome `h1` of
    the part, and the rest of the typing equation still to invert -/
theorem outPX_bindT {α β γ δ} {l : Lvl} {lp : Bool} {ret : Option Ty} {S : STy} {rT : Res γ} {kT : γ → Res δ}
    {P : γ → STy → α → Prop} {Q : δ → STy → β → Prop} {m : M α} {k : α → M β} {σ : St} {env : Env} {g : TEnv}
    (h1 : ∀ t, rT = .ok t → OutPX l lp ret S (P t) (m σ)) (henv : EnvOkGX l S env g)
    (h2 : ∀ t, rT = .ok t → ∀ a σ1 S1, Ext S S1 → StoreOkX l S1 σ1 → EnvOkGX l S1 env g → P t S1 a →
      (kT t).All fun U => OutPX l lp ret S1 (Q U) (k a σ1)) :
    (rT.bind kT).All fun U => OutPX l lp ret S (Q U) ((m >>= k) σ) :=
  .bind fun t ht U hU => outPX_bindEnv (h1 t ht) henv fun a σ1 S1 hle hst henv hp => h2 t ht a σ1 S1 hle hst henv hp U hU

section
variable {α β γ δ ε : Type} {ty : Lvl → Bool → Option Ty → TEnv → α → Res β} {ev : Env → α → M γ} {R : Lvl → β → STy → γ → Prop}
  {l : Lvl} {lp : Bool} {ret : Option Ty} {S : STy} {g : TEnv} {env : Env} {σ : St} {a : α}

/-- how a step proves `Sound`: whatever the checker function answers, the outcome is bounded by it - the goal in which the typing
    equation is read with the `Res.All` rules -/
theorem Sound.of_all (h : ∀ (l : Lvl) (lp : Bool) (ret : Option Ty) (S : STy) (g : TEnv) (env : Env) (a : α) (σ : St),
    EnvOkGX l S env g → GWf g → StoreOkX l S σ →
      (ty l lp ret g a).All fun b => OutPX l lp ret S (R l b) (ev env a σ)) : Sound ty ev R :=
  fun l lp ret S g env a b σ henv hg hst ht => h l lp ret S g env a σ henv hg hst b ht

theorem Sound.bind (h : Sound ty ev R) {b : β} {Q : STy → δ → Prop} {k : γ → M δ}
    (henv : EnvOkGX l S env g) (hg : GWf g) (hst : StoreOkX l S σ) (ht : ty l lp ret g a = .ok b)
    (h2 : ∀ c σ1 S1, Ext S S1 → StoreOkX l S1 σ1 → EnvOkGX l S1 env g → R l b S1 c → OutPX l lp ret S1 Q (k c σ1)) :
    OutPX l lp ret S Q ((ev env a >>= k) σ) :=
  outPX_bindEnv (h l lp ret S g env a b σ henv hg hst ht) henv h2

theorem Sound.bindT (h : Sound ty ev R) {kT : β → Res ε} {Q : ε → STy → δ → Prop} {k : γ → M δ}
    (henv : EnvOkGX l S env g) (hg : GWf g) (hst : StoreOkX l S σ)
    (h2 : ∀ b, ty l lp ret g a = .ok b → ∀ c σ1 S1, Ext S S1 → StoreOkX l S1 σ1 → EnvOkGX l S1 env g → R l b S1 c →
      (kT b).All fun U => OutPX l lp ret S1 (Q U) (k c σ1)) :
    ((ty l lp ret g a).bind kT).All fun U => OutPX l lp ret S (Q U) ((ev env a >>= k) σ) :=
  outPX_bindT (fun b hb => h l lp ret S g env a b σ henv hg hst hb) henv h2

end

theorem PE.bindBool {f : Nat} (hE : PE f) {l : Lvl} {lp : Bool} {ret : Option Ty} {S : STy} {g : TEnv} {env : Env} {σ : St}
    {e : Expr} {β : Type} {Q : STy → β → Prop} {k : Bool → M β}
    (henv : EnvOkGX l S env g) (hg : GWf g) (hst : StoreOkX l S σ) (ht : tyX l lp ret g e = .ok .bool)
    (h : ∀ b σ1 S1, Ext S S1 → StoreOkX l S1 σ1 → EnvOkGX l S1 env g → OutPX l lp ret S1 Q (k b σ1)) :
    OutPX l lp ret S Q ((eval f env e >>= fun x => liftE (asBool x) >>= k) σ) := by
  refine hE.bind henv hg hst ht fun x σ1 S1 hle hst1 henv1 hx => ?_
  obtain ⟨b, rfl⟩ := vtX_bool hx
  exact h b σ1 S1 hle hst1 henv1

/-- the optional `else` branch of `if` and `if x: T = e`: its value, or `()`, lies in the join with the type of the other
    branch, and so does every value of that other type -/
theorem PE.elseBranch {f : Nat} (hE : PE f) {l : Lvl} {lp : Bool} {ret : Option Ty} {S : STy} {g : TEnv} {env : Env} {σ : St}
    {e : Option Expr} {tt T : Ty} (henv : EnvOkGX l S env g) (hg : GWf g) (hst : StoreOkX l S σ)
    (wtt : wf tt = true)
    (ht : (match e with
      | some e => (tyX l lp ret g e).bind fun te => okW (concat tt te)
      | none => okW (concat tt .void)) = .ok T) :
    sub tt T = true ∧
      OutPX l lp ret S (fun S' v => VTX l S' T v) ((match e with
        | some e => eval f env e
        | none => pure .unit) σ) := by
  cases e with
  | some e =>
    simp only [] at ht ⊢
    obtain ⟨te, hte, h4⟩ := Res.bind_ok ht
    have wte := tyX_wf l lp ret g e te hte
    obtain ⟨u1, u2⟩ := concat_upper tt te wtt wte
    rw [(okW_ok h4).1]
    exact ⟨u1, outPX_mono (hE l lp ret S g env e te σ henv hg hst hte)
      (fun _ v _ hv => vtX_trans hv u2)⟩
  | none =>
    simp only [] at ht ⊢
    obtain ⟨u1, u2⟩ := concat_upper tt .void wtt rfl
    rw [(okW_ok ht).1]
    exact ⟨u1, outPX_pure hst ⟨by simpa [asType] using u2, (goodX_inv l _).unit⟩⟩

end Ssl.CS
