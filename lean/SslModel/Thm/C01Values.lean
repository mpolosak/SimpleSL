import SslModel.Thm.C01
import SslModel.Thm.C02
import SslModel.Lemmas.ValInv
import SslModel.Lemmas.Induction
import SslModel.Lemmas.Lists
/-!
# C01 / C02 — first-order values at the level of the evaluator

What the evaluator-level theorems share before any checker model is recursed over.  The invariant on first-order values,
`plain`: stored array tags are well-formed and lie above the tags of the elements, which is what the implementation's
`Array` keeps; such a value is under every invariant on values in the sense of `Val.Inv` (so what is shown of good values in
Thm/C01StoreTyping - a well-formed tag, which the value inhabits - holds of it).  Indexing and slicing keep any such invariant.  Which pairs of operand kinds the accepted types of the
operators admit (`in_acc*`); what the operators yield on them is `CF.inv_out_bin` in Thm/C01Invariants.
-/
namespace Ssl.C01
open Ssl Ssl.Ty Ssl.Val Ssl.Spec Ssl.Check

def sameKind : Val → Val → Bool
  | .bool _, .bool _ => true
  | .int _, .int _ => true
  | .float _, .float _ => true
  | .str _, .str _ => true
  | .unit, .unit => true
  | _, _ => false

/-- membership of a scalar in a type does not depend on which scalar of its kind it is -/
theorem hasTy_sameKind (t : Ty) (a b : Val) (hk : sameKind a b = true) : hasTy a t = hasTy b t := by
  -- the five pairs of scalars of one kind first; then every arm of `hasTy` but the union's looks at the constructor only
  unfold sameKind at hk
  split at hk
  case h_5 => rfl
  case h_6 => cases hk
  all_goals
    induction t using Ty.induction_mem with
    | multi ms ih =>
      rw [hasTy_multi, hasTy_multi]
      induction ms with
      | nil => simp [hasTyAny]
      | cons m l ihl =>
        simp only [hasTyAny]
        rw [ih m (by simp), ihl fun x hx => ih x (by simp [hx])]
    | _ => unfold hasTy; rfl

theorem hasTy_pair_iff {x y : Val} {l r : Ty} :
    hasTy (.tup [x, y]) (pairTy l r) = true ↔ hasTy x l = true ∧ hasTy y r = true := by
  simp [pairTy, hasTy, hasTyL]

theorem pair_shape {α β} {x y : Val} {l r : Ty} {cx : α → Val} {cy : β → Val} (hx : hasTy x l = true → ∃ a, x = cx a)
    (hy : hasTy y r = true → ∃ b, y = cy b) (h : hasTy x l = true ∧ hasTy y r = true) : ∃ a b, x = cx a ∧ y = cy b :=
  let ⟨a, ha⟩ := hx h.1
  let ⟨b, hb⟩ := hy h.2
  ⟨a, b, ha, hb⟩

theorem in_accNum (x y : Val) (h : hasTy (.tup [x, y]) accNum = true) :
    (∃ a b, x = .int a ∧ y = .int b) ∨ (∃ a b, x = .float a ∧ y = .float b) := by
  simp only [accNum, hasTy_multi, hasTyAny, hasTy_pair_iff, Bool.or_eq_true, Bool.or_false] at h
  exact h.imp (pair_shape int_of_hasTy int_of_hasTy) (pair_shape float_of_hasTy float_of_hasTy)

theorem in_accInt (x y : Val) (h : hasTy (.tup [x, y]) accInt = true) : ∃ a b, x = .int a ∧ y = .int b :=
  pair_shape int_of_hasTy int_of_hasTy (hasTy_pair_iff.mp h)

theorem in_accBit (x y : Val) (h : hasTy (.tup [x, y]) accBit = true) :
    (∃ a b, x = .int a ∧ y = .int b) ∨ (∃ a b, x = .bool a ∧ y = .bool b) := by
  simp only [accBit, hasTy_multi, hasTyAny, hasTy_pair_iff, Bool.or_eq_true, Bool.or_false] at h
  exact h.imp (pair_shape int_of_hasTy int_of_hasTy) (pair_shape bool_of_hasTy bool_of_hasTy)

theorem in_accAddScalar (x y : Val) (h : hasTy (.tup [x, y]) accAddScalar = true) :
    (∃ a b, x = .int a ∧ y = .int b) ∨ (∃ a b, x = .float a ∧ y = .float b) ∨ (∃ a b, x = .str a ∧ y = .str b) := by
  simp only [accAddScalar, hasTy_multi, hasTyAny, hasTy_pair_iff, Bool.or_eq_true, Bool.or_false] at h
  exact h.imp (pair_shape int_of_hasTy int_of_hasTy)
    (Or.imp (pair_shape float_of_hasTy float_of_hasTy) (pair_shape str_of_hasTy str_of_hasTy))

theorem foL_append (a b : List Val) : foL (a ++ b) = (foL a && foL b) := by
  induction a with
  | nil => simp [foL]
  | cons v a ih => simp [foL, ih, Bool.and_assoc]

def allTagSub (es : List Val) (t : Ty) : Bool := es.all fun e => sub e.asType t

theorem allTagSub_iff (es : List Val) (t : Ty) : allTagSub es t = true ↔ ∀ e ∈ es, sub e.asType t = true := by
  simp [allTagSub, List.all_eq_true]

mutual
/-- first-order values whose stored array tags are well-formed and lie above the tags of the elements (what literals,
    operators and the fragment's constructs build; the implementation's `Array` keeps the same invariant) -/
def plain : Val → Bool
  | .bool _ => true
  | .int _ => true
  | .float _ => true
  | .str _ => true
  | .unit => true
  | .arr t es => wf t && allTagSub es t && plainL es
  | .tup es => plainL es
  | _ => false
termination_by v => Val.size v
decreasing_by all_goals (simp only [Val.size]; omega)
def plainL : List Val → Bool
  | [] => true
  | v :: vs => plain v && plainL vs
termination_by vs => Val.sizeL vs
decreasing_by all_goals (simp only [Val.sizeL]; omega)
end

theorem plainL_iff (vs : List Val) : plainL vs = true ↔ ∀ x ∈ vs, plain x = true :=
  all_of_eqns (by rw [plainL]) (fun _ _ => by rw [plainL]) vs

theorem plainL_mem {vs : List Val} (h : plainL vs = true) {x : Val} (hx : x ∈ vs) : plain x = true :=
  (plainL_iff vs).mp h x hx

theorem plainL_of_mem (vs : List Val) (h : ∀ x ∈ vs, plain x = true) : plainL vs = true :=
  (plainL_iff vs).mpr h

theorem plain_fo {v : Val} (hp : plain v = true) : fo v = true := by
  induction v using Val.induction_mem with
  | bool _ | int _ | float _ | str _ | unit => rfl
  | arr t es ih =>
    simp only [plain, Bool.and_eq_true] at hp
    simp only [fo]
    exact foL_of_mem es fun x hx => ih x hx (plainL_mem hp.2 hx)
  | tup es ih =>
    simp only [plain] at hp
    simp only [fo]
    exact foL_of_mem es fun x hx => ih x hx (plainL_mem hp hx)
  | _ => simp [plain] at hp

theorem plainL_fo {vs : List Val} (h : plainL vs = true) : foL vs = true :=
  foL_of_mem vs (fun _ hx => plain_fo (plainL_mem h hx))

theorem inv_of_plain {G : Val → Prop} (I : Val.Inv G) {v : Val} (h : plain v = true) : G v := by
  induction v using Val.induction_mem with
  | bool b => exact I.bool b
  | int i => exact I.int i
  | float x => exact I.float x
  | str s => exact I.str s
  | unit => exact I.unit
  | arr t es ih =>
    simp only [plain, Bool.and_eq_true] at h
    exact I.arr.mpr ⟨h.1.1, (allTagSub_iff es t).mp h.1.2, fun e he => ih e he (plainL_mem h.2 he)⟩
  | tup es ih =>
    simp only [plain] at h
    exact I.tup.mpr fun e he => ih e he (plainL_mem h he)
  | _ => simp [plain] at h

theorem sameKind_asType {a b : Val} (h : sameKind a b = true) : a.asType = b.asType := by
  unfold sameKind at h
  split at h <;> first | (simp only [asType]; done) | cases h


theorem allHasTy_of_hasTyL : ∀ (vs : List Val) (ts : List Ty) (U : Ty), hasTyL vs ts = true → foL vs = true →
    (∀ t ∈ ts, sub t U = true) → allHasTy vs U = true :=
  fun vs ts U h _ hs => (allHasTy_iff vs U).mpr fun v hv =>
    let ⟨t, ht, hvt⟩ := ((hasTyL_iff vs ts).mp h).exists_of_mem_left v hv
    hasTy_of_sub v t U (hs t ht) hvt

theorem hasTyL_get : ∀ (vs : List Val) (ts : List Ty) (n : Nat) (x : Val) (tx : Ty), hasTyL vs ts = true →
    vs[n]? = some x → ts[n]? = some tx → hasTy x tx = true :=
  fun vs ts n _ _ h hv ht => ((hasTyL_iff vs ts).mp h).get n hv ht

theorem inv_atVal {G : Val → Prop} (I : Val.Inv G) {x : Val} {tc te : Ty} (k : I64) (gx : G x) (tx : sub x.asType tc = true)
    (hk : tc = .arr te ∨ (tc = .str ∧ te = .str)) :
    OkOrErr (fun v => sub v.asType te = true ∧ G v) (atVal x (.int k)) := by
  have cx := I.hasTy_of_tag gx tx
  rcases hk with rfl | ⟨rfl, rfl⟩
  · obtain ⟨t1, xs, rfl⟩ := arr_of_hasTy cx
    simp only [asType, sub_arr] at tx
    obtain ⟨_, hs1, hg1⟩ := I.arr.mp gx
    cases hat : atVal (.arr t1 xs) (.int k) with
    | ok v =>
      have hmem := atVal_mem t1 xs k v hat
      exact ⟨sub_trans _ t1 te (hs1 v hmem) tx, hg1 v hmem⟩
    | error sg => exact ⟨_, atVal_sig _ k sg (Or.inl ⟨t1, xs, rfl⟩) hat⟩
  · obtain ⟨str, rfl⟩ := str_of_hasTy cx
    cases hat : atVal (.str str) (.int k) with
    | ok v =>
      have := index_string_yields_string str k v hat
      obtain ⟨w, rfl⟩ : ∃ w, v = .str w := by cases v <;> simp [hasTy] at this; exact ⟨_, rfl⟩
      exact ⟨by simp [asType, sub, eqv], I.str _⟩
    | error sg => exact ⟨_, atVal_sig _ k sg (Or.inr ⟨str, rfl⟩) hat⟩

/-- the slice has the operand's own type: `Array::from` re-tags the selected elements, and that tag stays below the operand's -/
theorem inv_sliceVal {G : Val → Prop} (I : Val.Inv G) {x : Val} {tc : Ty} (vs ve vp : Option Val) (i1 i2 i3 : Option Int)
    (e1 : optIdx vs = .ok i1) (e2 : optIdx ve = .ok i2) (e3 : optIdx vp = .ok i3)
    (gx : G x) (tx : sub x.asType tc = true) (hk : (∃ e, tc = .arr e) ∨ tc = .str) :
    ∃ v, sliceVal x vs ve vp = .ok v ∧ sub v.asType tc = true ∧ G v := by
  have cx := I.hasTy_of_tag gx tx
  rcases hk with ⟨e, rfl⟩ | rfl
  · obtain ⟨t1, xs, rfl⟩ := arr_of_hasTy cx
    refine ⟨Val.mkArray (Seq.slice xs i1 i2 i3), by simp [sliceVal, e1, e2, e3, bind, Except.bind], ?_⟩
    simp only [asType, sub_arr] at tx
    obtain ⟨_, hs1, hg1⟩ := I.arr.mp gx
    have hsel : ∀ z ∈ Seq.slice xs i1 i2 i3, z ∈ xs := slice_mem xs i1 i2 i3
    have gsel : ∀ z ∈ Seq.slice xs i1 i2 i3, G z := fun z hz => hg1 z (hsel z hz)
    refine ⟨?_, I.mkArray _ gsel⟩
    simp only [Val.mkArray, asType, sub_arr]
    refine sub_trans _ t1 e (concatL_least _ t1 ?_) tx
    intro t ht'
    obtain ⟨z, hz, rfl⟩ := mem_asTypeL _ t ht'
    exact hs1 z (hsel z hz)
  · obtain ⟨str, rfl⟩ := str_of_hasTy cx
    exact ⟨.str (String.ofList (Seq.slice str.toList i1 i2 i3)), by simp [sliceVal, e1, e2, e3, bind, Except.bind],
      by simp [asType, sub, eqv], I.str _⟩

/-- widening the element type of an array's contents along `matches` -/
theorem allHasTy_widen (xs : List Val) (a b : Ty) (hf : foL xs = true) (hs : sub a b = true)
    (h : allHasTy xs a = true) : allHasTy xs b = true := by
  rw [allHasTy_iff] at h ⊢
  intro v hv
  exact matches_sound_partial v a b (foL_mem hf hv) hs (h v hv)

theorem allHasTy_append (xs ys : List Val) (t : Ty) : allHasTy (xs ++ ys) t = (allHasTy xs t && allHasTy ys t) := by
  induction xs with
  | nil => simp [allHasTy]
  | cons v xs ih => simp [allHasTy, ih, Bool.and_assoc]

end Ssl.C01
