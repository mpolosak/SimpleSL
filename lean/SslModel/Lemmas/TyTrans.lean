import SslModel.Lemmas.Ty
/-!
  Transitivity of `==` and of `Type::matches` (all types), symmetry of `==` (well-formed types) (C10).
-/
namespace Ssl.Ty

theorem eqvL_trans_of (as : List Ty) : ∀ (bs cs : List Ty),
    (∀ a ∈ as, ∀ b c, eqv a b = true → eqv b c = true → eqv a c = true) →
    eqvL as bs = true → eqvL bs cs = true → eqvL as cs = true := by
  intro bs cs hp h1 h2
  rw [eqvL_iff] at h1 h2 ⊢
  exact Pointwise.comp_of (fun a ha b _ c _ => hp a ha b c) h1 h2

theorem eqvL_size {as bs : List Ty} (h : eqvL as bs = true) : as.length = bs.length :=
  ((eqvL_iff as bs).mp h).length_eq

theorem eqv_trans (a b c : Ty) (h1 : eqv a b = true) (h2 : eqv b c = true) : eqv a c = true := by
  induction a using Ty.induction_mem generalizing b c with
  | fn ps r ihp ihr =>
    obtain ⟨ps2, r2, rfl, p1, r1⟩ := eqv_fn_inv h1
    obtain ⟨ps3, r3, rfl, p2, r2⟩ := eqv_fn_inv h2
    rw [eqv_fn, Bool.and_eq_true]
    exact ⟨eqvL_trans_of ps ps2 ps3 ihp p1 p2, ihr _ _ r1 r2⟩
  | arr e ih =>
    obtain ⟨e2, rfl, g1⟩ := eqv_arr_inv h1
    obtain ⟨e3, rfl, g2⟩ := eqv_arr_inv h2
    rw [eqv_arr]; exact ih _ _ g1 g2
  | cell e ih =>
    obtain ⟨e2, rfl, g1⟩ := eqv_cell_inv h1
    obtain ⟨e3, rfl, g2⟩ := eqv_cell_inv h2
    rw [eqv_cell]; exact ih _ _ g1 g2
  | tup es ih =>
    obtain ⟨es2, rfl, g1⟩ := eqv_tup_inv h1
    obtain ⟨es3, rfl, g2⟩ := eqv_tup_inv h2
    rw [eqv_tup]; exact eqvL_trans_of es es2 es3 ih g1 g2
  | multi ms ih =>
    obtain ⟨ms2, rfl, l1, g1⟩ := eqv_multi_inv h1
    obtain ⟨ms3, rfl, l2, g2⟩ := eqv_multi_inv h2
    refine (eqv_multi_iff ms ms3).mpr ⟨l1.trans l2, fun x hx => ?_⟩
    obtain ⟨y, hy, hxy⟩ := g1 x hx
    obtain ⟨z, hz, hyz⟩ := g2 y hy
    exact ⟨z, hz, ih x hx y z hxy hyz⟩
  | struct fs ih =>
    obtain ⟨fs2, rfl, l1, g1⟩ := eqv_struct_inv h1
    obtain ⟨fs3, rfl, l2, g2⟩ := eqv_struct_inv h2
    refine (eqv_struct_iff fs fs3).mpr ⟨l1.trans l2, fun p hp => ?_⟩
    obtain ⟨t', hl, he⟩ := g1 p hp
    obtain ⟨t'', hl2, he2⟩ := g2 (p.1, t') (lookupF_mem hl)
    exact ⟨t'', hl2, ih p hp t' t'' he he2⟩
  | _ =>
    cases of_head_atom (by simp [head]) (eqv_head h1)
    exact h2

/-- on the left a union goes member by member and `!` is below everything: what holds of the types
    below `b` that are neither a union nor `!` holds of all types below `b` -/
theorem sub_left_of_single {b c : Ty}
    (h : ∀ x, isMulti x = false → isNever x = false → sub x b = true → sub x c = true)
    (a : Ty) (hab : sub a b = true) : sub a c = true := by
  induction a using Ty.induction_mem with
  | multi as ih => exact sub_multi_left_iff.mpr fun x hx => ih x hx (sub_multi_left_iff.mp hab x hx)
  | never => exact sub_never c
  | _ => exact h _ rfl rfl hab

/-- on the right a union is reached through a member and `any` is above everything -/
theorem sub_right_of_single {a b : Ty} (ha1 : isMulti a = false) (ha2 : isNever a = false)
    (hb1 : isMulti b = false) (hb2 : isNever b = false)
    (h : ∀ z, isMulti z = false → z ≠ .any → sub b z = true → sub a z = true)
    (c : Ty) (hbc : sub b c = true) : sub a c = true := by
  induction c using Ty.induction_mem with
  | multi cs ih =>
    obtain ⟨z, hz, hbz⟩ := (sub_multi_right_iff hb1 hb2).mp hbc
    exact (sub_multi_right_iff ha1 ha2).mpr ⟨z, hz, ih z hz hbz⟩
  | any => exact sub_any_of_not_multi a ha1
  | _ => exact h _ rfl (by simp) hbc

/-- so transitivity through a `b` that is neither a union nor `!` nor `any` only has to be shown
    between types with the outermost constructor of `b` (`sub_head`) -/
theorem sub_trans_of_core {b : Ty} (hb1 : isMulti b = false) (hb2 : isNever b = false) (hb3 : b ≠ .any)
    (core : ∀ a c, head a = head b → head c = head b → sub a b = true → sub b c = true → sub a c = true)
    (a c : Ty) (h1 : sub a b = true) (h2 : sub b c = true) : sub a c = true :=
  sub_left_of_single (fun x x1 x2 hx =>
    sub_right_of_single x1 x2 hb1 hb2 (fun z z1 z2 hz =>
      core x z (sub_head x1 x2 hb1 hb3 hx) (sub_head hb1 hb2 z1 z2 hz).symm hx hz) c h2) a h1

/-- **`matches` is transitive**, on all types, by induction on the type in the middle: its
    components are in the middle of the components (also for parameters, compared the other way
    round), and below a union in the middle is below one of its members.  Well-formedness plays no
    part: a union inside a union is taken apart by the two lemmas above like any other. -/
theorem sub_trans (a b c : Ty) (h1 : sub a b = true) (h2 : sub b c = true) : sub a c = true := by
  induction b using Ty.induction_mem generalizing a c with
  | multi bs ih =>
    refine sub_left_of_single (fun x x1 x2 hx => ?_) a h1
    obtain ⟨m, hm, hxm⟩ := (sub_multi_right_iff x1 x2).mp hx
    exact ih m hm x c hxm (sub_multi_left_iff.mp h2 m hm)
  | never =>
    refine sub_left_of_single (fun x x1 x2 hx => ?_) a h1
    rw [sub_never_right x x1 x2] at hx; cases hx
  | any =>
    refine sub_left_of_single (fun x x1 x2 _ => sub_right_of_single x1 x2 rfl rfl (fun z z1 z2 hz => ?_) c h2) a h1
    rw [sub_any_left z z1 z2] at hz; cases hz
  | fn ps2 r2 ihp ihr =>
    refine sub_trans_of_core rfl rfl (by simp) (fun a c ea ec hab hbc => ?_) a c h1 h2
    obtain ⟨ps, r, rfl⟩ := of_head_fn ea
    obtain ⟨ps3, r3, rfl⟩ := of_head_fn ec
    rw [sub_fn, matchesParams_eq, Bool.and_eq_true, matchesL_iff] at hab hbc ⊢
    exact ⟨hbc.1.comp_of (fun z _ y hy x _ => ihp y hy z x) hab.1, ihr r r3 hab.2 hbc.2⟩
  | arr y ih =>
    refine sub_trans_of_core rfl rfl (by simp) (fun a c ea ec hab hbc => ?_) a c h1 h2
    obtain ⟨x, rfl⟩ := of_head_arr ea
    obtain ⟨z, rfl⟩ := of_head_arr ec
    rw [sub_arr] at hab hbc ⊢
    exact ih x z hab hbc
  | cell y _ =>
    refine sub_trans_of_core rfl rfl (by simp) (fun a c ea ec hab hbc => ?_) a c h1 h2
    obtain ⟨x, rfl⟩ := of_head_cell ea
    obtain ⟨z, rfl⟩ := of_head_cell ec
    rw [sub_cell] at hab hbc ⊢
    exact eqv_trans x y z hab hbc
  | tup ys ih =>
    refine sub_trans_of_core rfl rfl (by simp) (fun a c ea ec hab hbc => ?_) a c h1 h2
    obtain ⟨xs, rfl⟩ := of_head_tup ea
    obtain ⟨zs, rfl⟩ := of_head_tup ec
    rw [sub_tup, matchesL_iff] at hab hbc ⊢
    exact hab.comp_of (fun x _ y hy z _ => ih y hy x z) hbc
  | struct fb ih =>
    refine sub_trans_of_core rfl rfl (by simp) (fun a c ea ec hab hbc => ?_) a c h1 h2
    obtain ⟨fa, rfl⟩ := of_head_struct ea
    obtain ⟨fc, rfl⟩ := of_head_struct ec
    rw [sub_struct, structMatches_iff] at hab hbc ⊢
    intro p hp
    obtain ⟨t2, hl2, h23⟩ := (fieldMatches_iff fb p.1 p.2).mp (hbc p hp)
    have hm2 := lookupF_mem hl2
    obtain ⟨t1, hl1, h12⟩ := (fieldMatches_iff fa p.1 t2).mp (hab (p.1, t2) hm2)
    exact (fieldMatches_iff fa p.1 p.2).mpr ⟨t1, hl1, ih _ hm2 t1 p.2 h12 h23⟩
  | _ =>
    refine sub_trans_of_core rfl rfl (by simp) (fun a c ea _ _ hbc => ?_) a c h1 h2
    cases of_head_atom (by simp [head]) ea.symm
    exact hbc

theorem matchesL_trans (as bs cs : List Ty) (h1 : matchesL as bs = true) (h2 : matchesL bs cs = true) :
    matchesL as cs = true := by
  rw [matchesL_iff] at h1 h2 ⊢
  exact h1.comp_of (fun a _ b _ c _ => sub_trans a b c) h2

/-- the fields of two equal well-formed struct types correspond: every field of the second is a field
    of the first with an equal type (by counting keys; `==` itself only looks from the first) -/
theorem struct_eqv_fields {fa fb : List (String × Ty)} (wa : wf (.struct fa) = true) (wb : wf (.struct fb) = true)
    (h : eqv (.struct fa) (.struct fb) = true) :
    ∀ q ∈ fb, ∃ p ∈ fa, lookupF q.1 fa = some p.2 ∧ eqv p.2 q.2 = true := by
  obtain ⟨_, hb, hlen, hsub⟩ := eqv_struct_inv h
  cases hb
  simp only [wf, Bool.and_eq_true] at wa wb
  intro q hq
  obtain ⟨p, hp, hpk, he⟩ := fields_flip (r := fun x y => eqv x y = true) fa fb (keys_nodup wa.2) (keys_nodup wb.2) hlen
    (fun p hp => let ⟨t', hl, he⟩ := hsub p hp; ⟨t', lookupF_mem hl, he⟩) q hq
  exact ⟨p, hp, hpk ▸ lookupF_of_mem wa.2 hp, he⟩

theorem eqvL_symm_of (as bs : List Ty)
    (hp : ∀ a ∈ as, ∀ b, wf a = true → wf b = true → eqv a b = true → eqv b a = true)
    (wa : wfL as = true) (wb : wfL bs = true) (h : eqvL as bs = true) : eqvL bs as = true := by
  rw [eqvL_iff] at h ⊢
  exact Pointwise.flip_of (fun a ha b hb => hp a ha b (wfL_mem wa ha) (wfL_mem wb hb)) h

/-- **`==` is symmetric** on well-formed types -/
theorem eqv_symm (a b : Ty) (wa : wf a = true) (wb : wf b = true) (h : eqv a b = true) : eqv b a = true := by
  induction a using Ty.induction_mem generalizing b with
  | fn ps r ihp ihr =>
    obtain ⟨ps2, r2, rfl, h1, h2⟩ := eqv_fn_inv h
    simp only [wf, Bool.and_eq_true] at wa wb
    rw [eqv_fn, Bool.and_eq_true]
    exact ⟨eqvL_symm_of ps ps2 ihp wa.1 wb.1 h1, ihr _ wa.2 wb.2 h2⟩
  | arr e ih =>
    obtain ⟨e2, rfl, h1⟩ := eqv_arr_inv h
    rw [eqv_arr]; exact ih _ wa wb h1
  | cell e ih =>
    obtain ⟨e2, rfl, h1⟩ := eqv_cell_inv h
    rw [eqv_cell]; exact ih _ wa wb h1
  | tup es ih =>
    obtain ⟨es2, rfl, h1⟩ := eqv_tup_inv h
    rw [eqv_tup]; exact eqvL_symm_of es es2 ih wa wb h1
  | multi ms ih =>
    -- every member of the first equals a member of the second; the lengths agree and the members
    -- of the first are pairwise different, so by counting the converse holds
    obtain ⟨ms2, rfl, hlen, hsub⟩ := eqv_multi_inv h
    refine (eqv_multi_iff ms2 ms).mpr ⟨hlen.symm, fun y hy => ?_⟩
    have hnd : nodupL ms = true := by simp only [wf, Bool.and_eq_true] at wa; exact wa.2
    exact pigeon (R := fun x y => eqv x y = true) ms ms2
      (fun x hx y hy => ih x hx y (member_plain_wf wa hx).2 (member_plain_wf wb hy).2)
      (fun x _ y _ z _ => eqv_trans x y z)
      (((nodupL_iff ms).mp hnd).imp fun h => Bool.not_eq_true _ ▸ h) hlen hsub y hy
  | struct fs ih =>
    obtain ⟨fs2, rfl, hlen, _⟩ := eqv_struct_inv h
    refine (eqv_struct_iff fs2 fs).mpr ⟨hlen.symm, fun q hq => ?_⟩
    obtain ⟨p, hp, hl, he⟩ := struct_eqv_fields wa wb h q hq
    simp only [wf, Bool.and_eq_true] at wa wb
    exact ⟨p.2, hl, ih p hp q.2 (wfF_mem wa.1 hp) (wfF_mem wb.1 hq) he⟩
  | _ =>
    cases of_head_atom (by simp [head]) (eqv_head h)
    exact h

theorem eqv_comm (a b : Ty) (wa : wf a = true) (wb : wf b = true) : eqv a b = eqv b a :=
  Bool.eq_iff_iff.mpr ⟨eqv_symm a b wa wb, eqv_symm b a wb wa⟩

end Ssl.Ty
