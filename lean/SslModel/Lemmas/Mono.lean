import SslModel.Lemmas.SpecEq
/-!
  Fuel monotonicity of the reference evaluator `Spec`: an evaluation that ends without running out
  of fuel ends the same way (same value or signal, same store) with any larger amount of fuel.

  `LeR r r'` : `r` ran out of fuel, or `r = r'`;  `LeM m m'` : pointwise on stores.
  Every function of the mutual block of `Spec.eval` is monotone in its fuel (`mono`).
  `Eventually m σ r` : from some fuel on the family `m` answers `r` from the store `σ`.
-/
namespace Ssl.Spec

def LeR {α} (r r' : Except Sig α × St) : Prop :=
  (∃ σ, r = (.error .fuel, σ)) ∨ r = r'

def LeM {α} (m m' : M α) : Prop := ∀ σ, LeR (m σ) (m' σ)

theorem LeR.refl {α} (r : Except Sig α × St) : LeR r r := Or.inr rfl
theorem LeM.refl {α} (m : M α) : LeM m m := fun _ => .refl _

theorem LeR.trans {α} {a b c : Except Sig α × St} (h1 : LeR a b) (h2 : LeR b c) : LeR a c := by
  rcases h1 with h1 | h1
  · exact Or.inl h1
  · subst h1; exact h2

theorem LeM.trans {α} {a b c : M α} (h1 : LeM a b) (h2 : LeM b c) : LeM a c :=
  fun σ => (h1 σ).trans (h2 σ)

theorem LeM.fuel {α} (m : M α) : LeM (throwS .fuel) m := fun σ => Or.inl ⟨σ, rfl⟩

theorem LeM.bind {α β} {m m' : M α} {k k' : α → M β} (h : LeM m m') (hk : ∀ a, LeM (k a) (k' a)) :
    LeM (m >>= k) (m' >>= k') := by
  intro σ
  rw [bindM_def, bindM_def]
  rcases h σ with ⟨σ1, h1⟩ | h1
  · left; exact ⟨σ1, by rw [h1]⟩
  · rw [← h1]
    match m σ with
    | (.ok a, σ') => exact hk a σ'
    | (.error e, σ') => exact .refl _

theorem LeM.tryCatch {α} {m m' : M α} {h h' : Sig → M α} (hm : LeM m m')
    (hh : ∀ s, LeM (h s) (h' s)) (hf : h .fuel = throwS .fuel) :
    LeM (tryCatchS m h) (tryCatchS m' h') := by
  intro σ
  unfold tryCatchS
  rcases hm σ with ⟨σ1, h1⟩ | h1
  · left; refine ⟨σ1, ?_⟩; rw [h1]; simp only [hf]; rfl
  · rw [← h1]
    match m σ with
    | (.ok a, σ') => exact .refl _
    | (.error e, σ') => exact hh e σ'

attribute [irreducible] LeM

structure MonoAt (f g : Nat) : Prop where
  eval : ∀ env e, LeM (eval f env e) (eval g env e)
  evalOpt : ∀ env e, LeM (evalOpt f env e) (evalOpt g env e)
  evalList : ∀ env es, LeM (evalList f env es) (evalList g env es)
  evalFields : ∀ env es, LeM (evalFields f env es) (evalFields g env es)
  evalStmt : ∀ env e, LeM (evalStmt f env e) (evalStmt g env e)
  evalStmtValue : ∀ env e, LeM (evalStmtValue f env e) (evalStmtValue g env e)
  evalSeq : ∀ env es, LeM (evalSeq f env es) (evalSeq g env es)
  callFn : ∀ fv args, LeM (callFn f fv args) (callFn g fv args)
  pull : ∀ it, LeM (pull f it) (pull g it)
  collectGo : ∀ it acc, LeM (collectGo f it acc) (collectGo g it acc)
  partitionGo : ∀ it p l r, LeM (partitionGo f it p l r) (partitionGo g it p l r)
  reduceGo : ∀ it acc h, LeM (reduceGo f it acc h) (reduceGo g it acc h)
  boolGo : ∀ it u, LeM (boolGo f it u) (boolGo g it u)
  evalArms : ∀ env v arms, LeM (evalArms f env v arms) (evalArms g env v arms)
  candGo : ∀ env v cs, LeM (candGo f env v cs) (candGo g env v cs)
  bodyOnce : ∀ env b, LeM (bodyOnce f env b) (bodyOnce g env b)
  loopGo : ∀ env b, LeM (loopGo f env b) (loopGo g env b)
  whileGo : ∀ env c b, LeM (whileGo f env c b) (whileGo g env c b)
  whileSetGo : ∀ env x t e b, LeM (whileSetGo f env x t e b) (whileSetGo g env x t e b)
  forGo : ∀ env x it b, LeM (forGo f env x it b) (forGo g env x it b)

/-- one step of a monotonicity proof, chosen by the shape of the left computation.  Equal sides, the continuation
    of a bind and the bind itself come first: they are most of the steps, and each alternative tried before the
    right one is paid for.  Then a recursive call (the induction hypothesis), a handler, a case split. -/
syntax "mono_step" ident : tactic
macro_rules
  | `(tactic| mono_step $ih:ident) => `(tactic| first
      | with_reducible apply LeM.refl
      | intro _
      | with_reducible apply LeM.bind
      | with_reducible apply ($ih).eval
      | with_reducible apply ($ih).evalList
      | with_reducible apply ($ih).evalOpt
      | with_reducible apply ($ih).evalFields
      | with_reducible apply ($ih).evalStmt
      | with_reducible apply ($ih).evalStmtValue
      | with_reducible apply ($ih).evalSeq
      | with_reducible apply ($ih).callFn
      | with_reducible apply ($ih).pull
      | with_reducible apply ($ih).collectGo
      | with_reducible apply ($ih).partitionGo
      | with_reducible apply ($ih).reduceGo
      | with_reducible apply ($ih).boolGo
      | with_reducible apply ($ih).evalArms
      | with_reducible apply ($ih).candGo
      | with_reducible apply ($ih).bodyOnce
      | with_reducible apply ($ih).loopGo
      | with_reducible apply ($ih).whileGo
      | with_reducible apply ($ih).whileSetGo
      | with_reducible apply ($ih).forGo
      | (with_reducible apply LeM.tryCatch <;> first | exact fun _ => LeM.refl _ | rfl | skip)
      | (split <;> try simp only [])
      )

syntax "mono_auto" ident : tactic
macro_rules
  | `(tactic| mono_auto $ih:ident) => `(tactic| repeat (any_goals (mono_step $ih)))

theorem monoAt_zero (g : Nat) : MonoAt 0 g := by
  -- without fuel every function of the block is `throwS .fuel`, by its first equation
  constructor <;> intros <;> exact LeM.fuel _

theorem mono_eval (f g : Nat) (ih : MonoAt f g) (env : Env) (e : Expr) :
    LeM (eval (f + 1) env e) (eval (g + 1) env e) := by
  cases e
  case pre op e => cases op <;> simp only [eval] <;> mono_auto ih
  case bin op a b =>
    -- by hand, so that the seventeen scalar operators are one case and not seventeen runs of the macro
    by_cases h : isIterOp op = false
    · rw [eval_bin_scalar _ _ _ _ _ h, eval_bin_scalar _ _ _ _ _ h]; mono_auto ih
    · cases op
      case map | filter | partition => simp only [eval]; mono_auto ih
      all_goals exact absurd rfl h
  case post op e => cases op <;> simp only [eval] <;> mono_auto ih
  all_goals (simp only [eval]; mono_auto ih)

theorem monoAt_succ (f g : Nat) (ih : MonoAt f g) : MonoAt (f + 1) (g + 1) := by
  constructor
  · exact mono_eval f g ih
  · intro env e; cases e <;> simp only [evalOpt] <;> mono_auto ih
  · intro env es; cases es <;> simp only [evalList] <;> mono_auto ih
  · intro env es; cases es <;> simp only [evalFields] <;> mono_auto ih
  · intro env e
    by_cases h : Fold.isDecl e = false
    · rw [Fold.evalStmt_notDecl _ _ _ h, Fold.evalStmt_notDecl _ _ _ h]; mono_auto ih
    · cases e
      case set | destruct | fndecl => simp only [evalStmt]; mono_auto ih
      all_goals exact absurd rfl h
  · intro env e; simp only [evalStmtValue]; mono_auto ih
  · intro env es
    cases es with
    | nil => simp only [evalSeq]; mono_auto ih
    | cons s rest => cases rest <;> simp only [evalSeq] <;> mono_auto ih
  · intro fv args; simp only [callFn]; mono_auto ih
  · intro it; simp only [pull]; mono_auto ih
  · intro it acc; simp only [collectGo]; mono_auto ih
  · intro it p l r; simp only [partitionGo]; mono_auto ih
  · intro it acc h; simp only [reduceGo]; mono_auto ih
  · intro it u; simp only [boolGo]; mono_auto ih
  · intro env v arms
    cases arms with
    | nil => simp only [evalArms]; mono_auto ih
    | cons arm rest => cases arm <;> simp only [evalArms] <;> mono_auto ih
  · intro env v cs; cases cs <;> simp only [candGo] <;> mono_auto ih
  · intro env b; simp only [bodyOnce]; mono_auto ih
  · intro env b; simp only [loopGo]; mono_auto ih
  · intro env c b; simp only [whileGo]; mono_auto ih
  · intro env x t e b; simp only [whileSetGo]; mono_auto ih
  · intro env x it b; simp only [forGo]; mono_auto ih

theorem mono : ∀ {f g : Nat}, f ≤ g → MonoAt f g
  | 0, g, _ => monoAt_zero g
  | f + 1, 0, h => absurd h (Nat.not_succ_le_zero f)
  | f + 1, g + 1, h => monoAt_succ f g (mono (Nat.le_of_succ_le_succ h))

theorem LeM.apply {α} {m m' : M α} (h : LeM m m') (σ : St) : LeR (m σ) (m' σ) := by
  unfold LeM at h; exact h σ

theorem LeM.intro {α} {m m' : M α} (h : ∀ σ, LeR (m σ) (m' σ)) : LeM m m' := by
  unfold LeM; exact h

theorem LeR.eq_of_not_fuel {α} {r r' : Except Sig α × St} (h : LeR r r')
    (hf : ∀ σ, r ≠ (.error .fuel, σ)) : r' = r := by
  rcases h with ⟨σ, h⟩ | h
  · exact absurd h (hf σ)
  · exact h.symm

/-! ### for the users: a completed run at more fuel -/

theorem LeM.ok {α} {m m' : M α} (h : LeM m m') {σ σ' : St} {a : α} (hr : m σ = (.ok a, σ')) : m' σ = (.ok a, σ') :=
  ((h.apply σ).eq_of_not_fuel fun _ e => by rw [hr] at e; cases e).trans hr

theorem LeM.error {α} {m m' : M α} (h : LeM m m') {σ σ' : St} {s : Sig} (hr : m σ = (.error s, σ')) (hs : s ≠ .fuel) :
    m' σ = (.error s, σ') :=
  ((h.apply σ).eq_of_not_fuel fun _ e => by rw [hr] at e; cases e; exact hs rfl).trans hr

/-- from some fuel on, the family `m` answers `r` when started in `σ` -/
def Eventually {α} (m : Nat → M α) (σ : St) (r : Except Sig α × St) : Prop := ∃ f0, ∀ f, f0 ≤ f → m f σ = r

theorem Eventually.of_mono {α} {m : Nat → M α} (p : ∀ {f g}, MonoAt f g → LeM (m f) (m g)) {f : Nat} {σ σ' : St} {a : α}
    (h : m f σ = (.ok a, σ')) : Eventually m σ (.ok a, σ') := ⟨f, fun _ hg => (p (mono hg)).ok h⟩

theorem Eventually.step {α β} {m : Nat → M α} {m' : Nat → M β} {σ : St} {r : Except Sig α × St}
    {r' : Except Sig β × St} (h : Eventually m σ r) (hs : ∀ f, m f σ = r → m' (f + 1) σ = r') : Eventually m' σ r' := by
  obtain ⟨f0, h0⟩ := h
  exact ⟨f0 + 1, fun
    | 0, hf => absurd hf (Nat.not_succ_le_zero f0)
    | f + 1, hf => hs f (h0 f (Nat.le_of_succ_le_succ hf))⟩

theorem Eventually.step2 {α β γ} {m1 : Nat → M α} {m2 : Nat → M β} {m' : Nat → M γ} {σ σ2 : St}
    {r1 : Except Sig α × St} {r2 : Except Sig β × St} {r' : Except Sig γ × St} (h1 : Eventually m1 σ r1)
    (h2 : Eventually m2 σ2 r2) (hs : ∀ f, m1 f σ = r1 → m2 f σ2 = r2 → m' (f + 1) σ = r') : Eventually m' σ r' := by
  obtain ⟨f1, h1⟩ := h1
  obtain ⟨f2, h2⟩ := h2
  exact ⟨f1 + f2 + 1, fun
    | 0, hf => absurd hf (by omega)
    | f + 1, hf => hs f (h1 f (by omega)) (h2 f (by omega))⟩

theorem Eventually.of_succ {α} {m : Nat → M α} {σ : St} {r : Except Sig α × St} (h : ∀ f, m (f + 1) σ = r) :
    Eventually m σ r :=
  ⟨1, fun
    | 0, hf => absurd hf (by omega)
    | f + 1, _ => h f⟩

end Ssl.Spec
