import SslModel.Lemmas.TyTrans
/-!
  `==` implies `matches`, hence `matches` is reflexive; `concat` (the join) is the least upper bound of its operands and preserves
  well-formedness; `conjoin` (the meet used for parameters of a union of functions) is a lower bound
  of its operands and preserves well-formedness.  All for well-formed types, except that the join is below every
  upper bound whatever the types are (C10).
-/
namespace Ssl.Ty

theorem matchesL_of_eqvL (as bs : List Ty)
    (hp : ∀ a ∈ as, ∀ b, wf a = true → wf b = true → eqv a b = true → sub a b = true ∧ sub b a = true)
    (wa : wfL as = true) (wb : wfL bs = true) (h : eqvL as bs = true) :
    matchesL as bs = true ∧ matchesL bs as = true := by
  rw [eqvL_iff] at h
  rw [matchesL_iff, matchesL_iff]
  exact ⟨h.imp_of fun a ha b hb e => (hp a ha b (wfL_mem wa ha) (wfL_mem wb hb) e).1,
    h.flip_of fun a ha b hb e => (hp a ha b (wfL_mem wa ha) (wfL_mem wb hb) e).2⟩

/-- `a == b` implies `a.matches(b)` and `b.matches(a)` (well-formed types).  Both directions at once:
    function parameters are compared the other way round. -/
theorem sub_of_eqv_both (a b : Ty) (wa : wf a = true) (wb : wf b = true) (h : eqv a b = true) :
    sub a b = true ∧ sub b a = true := by
  induction a using Ty.induction_mem generalizing b with
  | fn ps r ihp ihr =>
    obtain ⟨ps2, r2, rfl, h1, h2⟩ := eqv_fn_inv h
    simp only [wf, Bool.and_eq_true] at wa wb
    rw [sub_fn, sub_fn, Bool.and_eq_true, Bool.and_eq_true, matchesParams_eq, matchesParams_eq]
    have hp := matchesL_of_eqvL ps ps2 ihp wa.1 wb.1 h1
    have hr := ihr _ wa.2 wb.2 h2
    exact ⟨⟨hp.2, hr.1⟩, ⟨hp.1, hr.2⟩⟩
  | arr e ih =>
    obtain ⟨e2, rfl, h1⟩ := eqv_arr_inv h
    rw [sub_arr, sub_arr]; exact ih _ wa wb h1
  | cell e ih =>
    obtain ⟨e2, rfl, h1⟩ := eqv_cell_inv h
    rw [sub_cell, sub_cell]; exact ⟨h1, eqv_symm _ _ wa wb h1⟩
  | tup es ih =>
    obtain ⟨es2, rfl, h1⟩ := eqv_tup_inv h
    rw [sub_tup, sub_tup]; exact matchesL_of_eqvL es es2 ih wa wb h1
  | multi ms ih =>
    obtain ⟨ms2, rfl, _, hsub⟩ := eqv_multi_inv h
    have hsub' := ((eqv_multi_iff ms2 ms).mp (eqv_symm _ _ wa wb h)).2
    constructor
    · refine sub_multi_left_iff.mpr fun x hx => ?_
      have hx' := member_plain_wf wa hx
      obtain ⟨y, hy, hxy⟩ := hsub x hx
      exact (sub_multi_right_iff hx'.1.1 hx'.1.2.1).mpr
        ⟨y, hy, (ih x hx y hx'.2 (member_plain_wf wb hy).2 hxy).1⟩
    · refine sub_multi_left_iff.mpr fun y hy => ?_
      have hy' := member_plain_wf wb hy
      obtain ⟨x, hx, hyx⟩ := hsub' y hy
      have wx := (member_plain_wf wa hx).2
      exact (sub_multi_right_iff hy'.1.1 hy'.1.2.1).mpr
        ⟨x, hx, (ih x hx y wx hy'.2 (eqv_symm _ _ hy'.2 wx hyx)).2⟩
  | struct fs ih =>
    obtain ⟨fs2, rfl, _, hsub⟩ := eqv_struct_inv h
    have wa' := wa; have wb' := wb
    simp only [wf, Bool.and_eq_true] at wa' wb'
    rw [sub_struct, sub_struct, structMatches_iff, structMatches_iff]
    constructor
    · intro q hq
      obtain ⟨p, hp, hl, he⟩ := struct_eqv_fields wa wb h q hq
      exact (fieldMatches_iff fs q.1 q.2).mpr ⟨p.2, hl, (ih p hp q.2 (wfF_mem wa'.1 hp) (wfF_mem wb'.1 hq) he).1⟩
    · intro p hp
      obtain ⟨t', hl, he⟩ := hsub p hp
      exact (fieldMatches_iff fs2 p.1 p.2).mpr
        ⟨t', hl, (ih p hp t' (wfF_mem wa'.1 hp) (wfF_mem wb'.1 (lookupF_mem hl)) he).2⟩
  | any =>
    cases of_head_atom (by decide) (eqv_head h)
    exact ⟨sub_any _, sub_any _⟩
  | never =>
    cases of_head_atom (by decide) (eqv_head h)
    exact ⟨sub_never _, sub_never _⟩
  | _ =>
    cases of_head_atom (by simp [head]) (eqv_head h)
    exact ⟨sub_scalar_refl _ (by simp), sub_scalar_refl _ (by simp)⟩

theorem sub_of_eqv (a b : Ty) (wa : wf a = true) (wb : wf b = true) (h : eqv a b = true) : sub a b = true :=
  (sub_of_eqv_both a b wa wb h).1

theorem sub_refl (t : Ty) (hw : wf t = true) : sub t t = true := sub_of_eqv t t hw hw (eqv_refl t hw)

theorem member_below_union (MS : List Ty) (hw : wf (.multi MS) = true) (m : Ty) (hm : m ∈ MS) :
    sub m (.multi MS) = true :=
  have h := member_plain_wf hw hm
  (sub_multi_right_iff h.1.1 h.1.2.1).mpr ⟨m, hm, sub_refl m h.2⟩

theorem sub_congr_left (a a' b : Ty) (wa : wf a = true) (wa' : wf a' = true)
    (he : eqv a a' = true) (h : sub a b = true) : sub a' b = true :=
  sub_trans a' a b (sub_of_eqv a' a wa' wa (eqv_symm a a' wa wa' he)) h

theorem sub_congr_right (a b b' : Ty) (wb : wf b = true) (wb' : wf b' = true)
    (he : eqv b b' = true) (h : sub a b = true) : sub a b' = true :=
  sub_trans a b b' h (sub_of_eqv b b' wb wb' he)

/-! ### `concat` (the join the checker uses for branches, elements, results) is the least upper bound -/

/-- the invariant of a union's member list: well-formed members, none a union, `!` or `any`,
    pairwise different -/
def MembersInv (ms : List Ty) : Prop := wfL ms = true ∧ membersOk ms = true ∧ nodupL ms = true

theorem membersInv_iff (ms : List Ty) : MembersInv ms ↔
    (∀ x ∈ ms, wf x = true ∧ PlainT x) ∧ ms.Pairwise (fun x y => eqv x y = false) := by
  unfold MembersInv
  rw [wfL_iff, membersOk_iff, nodupL_iff]
  exact ⟨fun ⟨h1, h2, h3⟩ => ⟨fun x hx => ⟨h1 x hx, h2 x hx⟩, h3⟩,
    fun ⟨h, h3⟩ => ⟨fun x hx => (h x hx).1, fun x hx => (h x hx).2, h3⟩⟩

theorem wf_multi_of (L : List Ty) (hl : 2 ≤ L.length) (h : MembersInv L) : wf (.multi L) = true := by
  obtain ⟨h1, h2, h3⟩ := h
  simp [wf, hl, h1, h2, h3]

theorem inv_of_wf_multi (ms : List Ty) (hw : wf (.multi ms) = true) : 2 ≤ ms.length ∧ MembersInv ms := by
  simp only [wf, Bool.and_eq_true, decide_eq_true_eq] at hw
  exact ⟨hw.1.1.1, hw.1.1.2, hw.1.2, hw.2⟩

/-! `insertM` (`HashSet::insert`): the list stays as it is when it holds an equal member, else the new
    member goes to the end -/
theorem insertM_cases (t : Ty) (ms : List Ty) :
    (memL t ms = true ∧ insertM t ms = ms) ∨ (memL t ms = false ∧ insertM t ms = ms ++ [t]) := by
  unfold insertM
  cases memL t ms <;> simp

theorem insertM_prefix (t : Ty) (ms : List Ty) : ms <+: insertM t ms := by
  rcases insertM_cases t ms with ⟨_, e⟩ | ⟨_, e⟩ <;> rw [e]
  · exact List.prefix_refl ms
  · exact List.prefix_append ms [t]

theorem mem_insertM {z t : Ty} {ms : List Ty} (h : z ∈ insertM t ms) : z ∈ ms ∨ z = t := by
  rcases insertM_cases t ms with ⟨_, e⟩ | ⟨_, e⟩ <;> rw [e] at h
  · exact Or.inl h
  · exact (List.mem_append.mp h).imp id List.mem_singleton.mp

theorem insertM_covers (t : Ty) (ms : List Ty) (ht : eqv t t = true) : ∃ y ∈ insertM t ms, eqv t y = true := by
  rcases insertM_cases t ms with ⟨hm, e⟩ | ⟨_, e⟩ <;> rw [e]
  · exact (memL_iff t ms).mp hm
  · exact ⟨t, by simp, ht⟩

theorem insertM_inv (ms : List Ty) (t : Ty) (h : MembersInv ms) (wt : wf t = true) (ht : PlainT t) :
    MembersInv (insertM t ms) := by
  rcases insertM_cases t ms with ⟨_, e⟩ | ⟨hm, e⟩ <;> rw [e]
  · exact h
  · rw [membersInv_iff] at h ⊢
    refine ⟨fun x hx => (List.mem_append.mp hx).elim (h.1 x) fun hx => List.mem_singleton.mp hx ▸ ⟨wt, ht⟩,
      List.pairwise_append.mpr ⟨h.2, List.pairwise_singleton _ _, fun x hx y hy => ?_⟩⟩
    -- no member equals `t`: `t` would equal it (symmetry), and `memL t ms` says it does not
    cases List.mem_singleton.mp hy
    refine Bool.eq_false_iff.mpr fun hxt => ?_
    have := (memL_iff t ms).mpr ⟨x, hx, eqv_symm x t (h.1 x hx).1 wt hxt⟩
    rw [hm] at this; cases this

/-! `extendM ms ns` folds `insertM` over `ns`, so what an insertion keeps the fold keeps (`List.foldlRecOn`) -/
theorem extendM_prefix (ms ns : List Ty) : ms <+: extendM ms ns :=
  List.foldlRecOn (motive := (ms <+: ·)) ns _ (List.prefix_refl ms) fun acc h t _ => h.trans (insertM_prefix t acc)

theorem mem_extendM {ms ns : List Ty} {z : Ty} (h : z ∈ extendM ms ns) : z ∈ ms ∨ z ∈ ns :=
  List.foldlRecOn (motive := fun acc => ∀ z ∈ acc, z ∈ ms ∨ z ∈ ns) ns _ (fun _ h => .inl h)
    (fun _ ih _ ht z hz => (mem_insertM hz).elim (ih z) fun e => .inr (e ▸ ht)) z h

theorem extendM_inv {ms ns : List Ty} (h : MembersInv ms) (hns : ∀ t ∈ ns, wf t = true ∧ PlainT t) :
    MembersInv (extendM ms ns) :=
  List.foldlRecOn (motive := MembersInv) ns _ h fun acc ih t ht => insertM_inv acc t ih (hns t ht).1 (hns t ht).2

theorem extendM_covers (ms : List Ty) {ns : List Ty} {t : Ty} (ht : t ∈ ns) (hr : eqv t t = true) :
    ∃ y ∈ extendM ms ns, eqv t y = true := by
  -- `t` or an equal member is there after its own insertion, and what is there stays
  obtain ⟨s, r, rfl⟩ := List.append_of_mem ht
  obtain ⟨y, hy, he⟩ := insertM_covers t (extendM ms s) hr
  refine ⟨y, ?_, he⟩
  rw [extendM, List.foldl_append, List.foldl_cons]
  exact (extendM_prefix _ r).subset hy

/-- the members `concat` merges: those of a union, or the type itself -/
def members : Ty → List Ty
  | .multi ms => ms
  | t => [t]

theorem members_of_not_multi {t : Ty} (h : ∀ ms, t = .multi ms → False) : members t = [t] := by
  cases t <;> first | rfl | exact (h _ rfl).elim

theorem sub_iff_members (a c : Ty) : sub a c = true ↔ ∀ x ∈ members a, sub x c = true := by
  cases a with
  | multi ms => exact sub_multi_left_iff
  | _ => exact (List.forall_mem_singleton (p := fun x => sub x c = true)).symm

theorem members_inv (a : Ty) (wa : wf a = true) (h1 : a ≠ .never) (h2 : a ≠ .any) : MembersInv (members a) := by
  by_cases hm : isMulti a = true
  · obtain ⟨ms, rfl⟩ := eq_multi_of_isMulti hm
    exact (inv_of_wf_multi ms wa).2
  · rw [members_of_not_multi (fun ms h => by subst h; exact hm rfl)]
    have hp : PlainT a := ⟨by simpa using hm, Bool.eq_false_iff.mpr fun h => h1 (eq_never_of_isNever h), h2⟩
    exact (membersInv_iff [a]).mpr
      ⟨fun x hx => List.mem_singleton.mp hx ▸ ⟨wa, hp⟩, List.pairwise_singleton _ _⟩

theorem extendM_upper (X Y : List Ty) (hX : ∀ x ∈ X, wf x = true ∧ PlainT x) (hY : ∀ x ∈ Y, wf x = true ∧ PlainT x)
    (x : Ty) (hx : x ∈ X ∨ x ∈ Y) : sub x (.multi (extendM X Y)) = true := by
  have hx' : wf x = true ∧ PlainT x := hx.elim (hX x) (hY x)
  obtain ⟨z, hz, he⟩ : ∃ z ∈ extendM X Y, eqv x z = true :=
    hx.elim (fun h => ⟨x, (extendM_prefix X Y).subset h, eqv_refl x hx'.1⟩) fun h => extendM_covers X h (eqv_refl x hx'.1)
  have wz : wf z = true := (mem_extendM hz).elim (fun h => (hX z h).1) fun h => (hY z h).1
  exact (sub_multi_right_iff hx'.2.1 hx'.2.2.1).mpr ⟨z, hz, sub_of_eqv x z hx'.1 wz he⟩

/-! The arms of `concat`, once: four that return an operand or `any`, and the one that builds a union. -/
theorem concat_never_left (b : Ty) : concat .never b = b := by
  unfold concat; split <;> simp_all
theorem concat_never_right (a : Ty) : concat a .never = a := by
  unfold concat; split <;> simp_all
theorem concat_any (a b : Ty) (ha : a ≠ .never) (hb : b ≠ .never) (h : a = .any ∨ b = .any) : concat a b = .any := by
  unfold concat
  split
  · exact absurd rfl ha
  · exact absurd rfl hb
  · rfl
  · rfl
  · next _ h1 _ h2 => exact (h.elim h1 h2).elim
theorem concat_inner (a b : Ty) (ha : a ≠ .never) (hb : b ≠ .never) (ha' : a ≠ .any) (hb' : b ≠ .any) :
    concat a b = if eqv a b then a else
      match (generalizing := false) a, b with
      | .multi as, .multi bs => .multi (extendM as bs)
      | .multi as, t => .multi (insertM t as)
      | t, .multi bs => .multi (insertM t bs)
      | a, b => .multi [a, b] := by
  unfold concat
  split <;> first | contradiction | rfl

theorem concat_of_eqv (a b : Ty) (ha : a ≠ .never) (hb : b ≠ .never) (ha' : a ≠ .any) (hb' : b ≠ .any)
    (he : eqv a b = true) : concat a b = a := by
  rw [concat_inner a b ha hb ha' hb', if_pos he]

theorem eqv_multi_of_not_multi {t : Ty} (ht : isMulti t = false) (as : List Ty) : eqv (.multi as) t = false :=
  Bool.eq_false_iff.mpr fun h => by
    obtain ⟨_, e⟩ := of_head_multi (eqv_head h).symm
    rw [e] at ht; cases ht

theorem concat_multi_plain (as : List Ty) (t : Ty) (ht : PlainT t) : concat (.multi as) t = .multi (insertM t as) := by
  rw [concat_inner _ t (by simp) (fun e => by rw [e] at ht; cases ht.2.1) (by simp) ht.2.2,
    if_neg (by rw [eqv_multi_of_not_multi ht.1]; simp)]
  split
  · cases ht.1
  · next e _ => cases e; rfl
  · next h => exact (h _ rfl).elim
  · next h _ => exact (h _ rfl).elim

theorem concat_plain_plain (a b : Ty) (ha : PlainT a) (hb : PlainT b) (hne : eqv a b = false) : concat a b = .multi [a, b] := by
  rw [concat_inner a b (fun e => by rw [e] at ha; cases ha.2.1) (fun e => by rw [e] at hb; cases hb.2.1) ha.2.2 hb.2.2,
    if_neg (by simp [hne])]
  split
  · cases ha.1
  · cases ha.1
  · cases hb.1
  · rfl

/-- otherwise the result is the union of the operands' members, merged by `extendM` one way round or
    the other (a lone type is inserted into the other operand's union), with at least two members -/
theorem concat_union (a b : Ty) (wa : wf a = true) (wb : wf b = true) (ha : a ≠ .never) (hb : b ≠ .never)
    (ha' : a ≠ .any) (hb' : b ≠ .any) (he : eqv a b = false) :
    ∃ X Y, concat a b = .multi (extendM X Y) ∧ 2 ≤ (extendM X Y).length ∧
      (X = members a ∧ Y = members b ∨ X = members b ∧ Y = members a) := by
  rw [concat_inner a b ha hb ha' hb', if_neg (by simp [he])]
  split
  · exact ⟨_, _, rfl, Nat.le_trans (inv_of_wf_multi _ wa).1 (extendM_prefix _ _).length_le, Or.inl ⟨rfl, rfl⟩⟩
  · exact ⟨_, [b], rfl, Nat.le_trans (inv_of_wf_multi _ wa).1 (extendM_prefix _ _).length_le,
      Or.inl ⟨rfl, (members_of_not_multi ‹_›).symm⟩⟩
  · exact ⟨_, [a], rfl, Nat.le_trans (inv_of_wf_multi _ wb).1 (extendM_prefix _ _).length_le,
      Or.inr ⟨rfl, (members_of_not_multi ‹_›).symm⟩⟩
  · have : extendM [a] [b] = [a, b] := by simp [extendM, insertM, memL, eqv_comm a b wa wb ▸ he]
    exact ⟨[a], [b], by rw [this], by simp [this], Or.inl ⟨(members_of_not_multi ‹_›).symm, (members_of_not_multi ‹_›).symm⟩⟩

theorem mem_members_concat {a b z : Ty} (hz : z ∈ members (concat a b)) : z ∈ members a ∨ z ∈ members b := by
  unfold concat at hz
  split at hz
  · exact .inr hz
  · exact .inl hz
  · exact .inl hz
  · exact .inr hz
  · split at hz
    · exact .inl hz
    · split at hz
      · exact mem_extendM hz
      · exact (mem_insertM hz).imp_right fun e => by rw [members_of_not_multi ‹_›]; exact List.mem_singleton.mpr e
      · exact (mem_insertM hz).symm.imp_left fun e => by rw [members_of_not_multi ‹_›]; exact List.mem_singleton.mpr e
      · rw [members_of_not_multi ‹_›, members_of_not_multi ‹_›]
        simpa [members] using hz

theorem concat_below (a b c : Ty) (ha : sub a c = true) (hb : sub b c = true) : sub (concat a b) c = true := by
  rw [sub_iff_members] at ha hb ⊢
  exact fun z hz => (mem_members_concat hz).elim (ha z) (hb z)

/-- **`concat` is the least upper bound of its operands, and well-formed**: the arms of `concat`, once -/
theorem concat_lub (a b : Ty) (wa : wf a = true) (wb : wf b = true) :
    wf (concat a b) = true ∧ sub a (concat a b) = true ∧ sub b (concat a b) = true ∧
      ∀ c, sub a c = true → sub b c = true → sub (concat a b) c = true := by
  suffices h : wf (concat a b) = true ∧ sub a (concat a b) = true ∧ sub b (concat a b) = true from
    ⟨h.1, h.2.1, h.2.2, concat_below a b⟩
  by_cases han : a = .never
  · subst han; rw [concat_never_left]
    exact ⟨wb, sub_never b, sub_refl b wb⟩
  by_cases hbn : b = .never
  · subst hbn; rw [concat_never_right]
    exact ⟨wa, sub_refl a wa, sub_never a⟩
  by_cases hany : a = .any ∨ b = .any
  · rw [concat_any a b han hbn hany]
    exact ⟨rfl, sub_any a, sub_any b⟩
  have haa : a ≠ .any := fun h => hany (Or.inl h)
  have hba : b ≠ .any := fun h => hany (Or.inr h)
  by_cases he : eqv a b = true
  · rw [concat_of_eqv a b han hbn haa hba he]
    exact ⟨wa, sub_refl a wa, sub_of_eqv b a wb wa (eqv_symm a b wa wb he)⟩
  have he' : eqv a b = false := by simpa using he
  obtain ⟨X, Y, h, hl, hXY⟩ := concat_union a b wa wb han hbn haa hba he'
  have ia := members_inv a wa han haa
  have ib := members_inv b wb hbn hba
  have ma := ((membersInv_iff _).mp ia).1
  have mb := ((membersInv_iff _).mp ib).1
  -- whichever way round the members were merged, the two facts about `extendM` are the same
  have hE : MembersInv (extendM X Y) ∧ ∀ z, z ∈ members a ∨ z ∈ members b → sub z (.multi (extendM X Y)) = true := by
    rcases hXY with ⟨rfl, rfl⟩ | ⟨rfl, rfl⟩
    · exact ⟨extendM_inv ia mb, extendM_upper _ _ ma mb⟩
    · exact ⟨extendM_inv ib ma, fun z hz => extendM_upper _ _ mb ma z hz.symm⟩
  rw [h, sub_iff_members a, sub_iff_members b]
  exact ⟨wf_multi_of _ hl hE.1, fun x hx => hE.2 x (Or.inl hx), fun x hx => hE.2 x (Or.inr hx)⟩

theorem concat_upper (a b : Ty) (wa : wf a = true) (wb : wf b = true) :
    sub a (concat a b) = true ∧ sub b (concat a b) = true :=
  let h := concat_lub a b wa wb
  ⟨h.2.1, h.2.2.1⟩

-- the statement keeps hypotheses of well-formedness that its proof does not use
set_option linter.unusedVariables false in
/-- the join is the least upper bound: whatever both operands lie below, it lies below -/
theorem concat_least (a b c : Ty) (wa : wf a = true) (wb : wf b = true)
    (ha : sub a c = true) (hb : sub b c = true) : sub (concat a b) c = true :=
  concat_below a b c ha hb

theorem concat_wf (a b : Ty) (wa : wf a = true) (wb : wf b = true) : wf (concat a b) = true :=
  (concat_lub a b wa wb).1

/-! what `concat` builds from the members of a well-formed union, in their order: the union itself -/

/-- `nodupL` compares each member with the later ones, `insertM` each new member with the earlier ones -/
theorem pairwise_of_wf (ms : List Ty) (hw : wfL ms = true) (hn : nodupL ms = true) :
    ms.Pairwise (fun x z => eqv z x = false) :=
  ((nodupL_iff ms).mp hn).imp_of_mem fun {x z} hx hz h => by
    rwa [eqv_comm z x (wfL_mem hw hz) (wfL_mem hw hx)]

theorem fold_concat_members : ∀ (rest acc : List Ty), (∀ y ∈ rest, PlainT y) →
    (acc ++ rest).Pairwise (fun x z => eqv z x = false) →
    rest.foldl concat (.multi acc) = .multi (acc ++ rest)
  | [], acc, _, _ => by simp
  | y :: rest, acc, hp, hpw => by
    have hmem : memL y acc = false := by
      cases h : memL y acc with
      | false => rfl
      | true =>
        obtain ⟨x, hx, hyx⟩ := (memL_iff y acc).mp h
        rw [(List.pairwise_append.mp hpw).2.2 x hx y (by simp)] at hyx; exact absurd hyx (by simp)
    rw [List.foldl_cons, concat_multi_plain acc y (hp y (by simp)), insertM, if_neg (by simp [hmem]),
      fold_concat_members rest (acc ++ [y]) (fun z hz => hp z (by simp [hz])) (by simpa using hpw)]
    simp

theorem concatL_wf (ms : List Ty) (hw : wf (.multi ms) = true) : concatL ms = .multi ms := by
  obtain ⟨hlen, hwl, hmo, hnd⟩ := inv_of_wf_multi ms hw
  have hpl : ∀ y ∈ ms, PlainT y := fun y hy => membersOk_mem hmo hy
  have hpw := pairwise_of_wf ms hwl hnd
  match ms, hlen with
  | m1 :: m2 :: rest, _ =>
    have hne : eqv m1 m2 = false := by
      rw [eqv_comm m1 m2 (wfL_mem hwl (by simp)) (wfL_mem hwl (by simp))]
      exact (List.pairwise_cons.mp hpw).1 m2 (by simp)
    rw [concatL, List.foldl_cons, concat_plain_plain m1 m2 (hpl m1 (by simp)) (hpl m2 (by simp)) hne,
      fold_concat_members rest [m1, m2] (fun y hy => hpl y (by simp [hy])) hpw]
    rfl

/-! ### `conjoin` (the meet used for parameters of a union of functions) is a lower bound -/

theorem conjoinL_nil_left (ys : List Ty) : conjoinL [] ys = [] := by rw [conjoinL] <;> (intros; simp_all)
theorem conjoinL_nil_right (xs : List Ty) : conjoinL xs [] = [] := by
  cases xs with
  | nil => exact conjoinL_nil_left []
  | cons x xs => rw [conjoinL] <;> (intros; simp_all)
theorem conjoinL_cons (x y : Ty) (xs ys : List Ty) : conjoinL (x :: xs) (y :: ys) = conjoin x y :: conjoinL xs ys := by
  rw [conjoinL]

theorem conjoinM_nil (o : Ty) : conjoinM [] o = .never := by rw [conjoinM]
theorem conjoinM_one (m o : Ty) : conjoinM [m] o = conjoin m o := by rw [conjoinM]
theorem conjoinM_cons (m : Ty) (ms : List Ty) (o : Ty) (h : ms = [] → False) :
    conjoinM (m :: ms) o = concat (conjoin m o) (conjoinM ms o) := by
  rw [conjoinM]
  exact h

/-- position by position, for `zipWith conjoin` (`r` below) and `zipWith concat` (`r` above) -/
theorem zipWith_props {f : Ty → Ty → Ty} {r : Ty → Ty → Prop} : ∀ (as bs : List Ty), as.length = bs.length →
    (∀ a ∈ as, ∀ b ∈ bs, wf (f a b) = true ∧ r (f a b) a ∧ r (f a b) b) →
    wfL (List.zipWith f as bs) = true ∧ Pointwise r (List.zipWith f as bs) as ∧
      Pointwise r (List.zipWith f as bs) bs
  | [], [], _, _ => ⟨rfl, trivial, trivial⟩
  | a :: as, b :: bs, hl, h =>
    have ⟨w, p, q⟩ := zipWith_props as bs (Nat.succ.inj hl) fun x hx y hy =>
      h x (List.mem_cons_of_mem _ hx) y (List.mem_cons_of_mem _ hy)
    have ⟨w0, p0, q0⟩ := h a List.mem_cons_self b List.mem_cons_self
    ⟨by simp [wfL, w0, w], ⟨p0, p⟩, ⟨q0, q⟩⟩

theorem conjoinL_eq : ∀ (xs ys : List Ty), conjoinL xs ys = List.zipWith conjoin xs ys
  | [], ys => by rw [conjoinL_nil_left, List.zipWith_nil_left]
  | x :: xs, [] => by rw [conjoinL_nil_right, List.zipWith_nil_right]
  | x :: xs, y :: ys => by rw [conjoinL_cons, conjoinL_eq xs ys, List.zipWith_cons_cons]

theorem zipConcat_props (ps : List Ty) : ∀ (ps2 : List Ty), ps.length = ps2.length → wfL ps = true → wfL ps2 = true →
    wfL (List.zipWith concat ps ps2) = true ∧ matchesParams ps (List.zipWith concat ps ps2) = true ∧
    matchesParams ps2 (List.zipWith concat ps ps2) = true := by
  intro ps2 hl wp wp2
  obtain ⟨w, u1, u2⟩ := zipWith_props (f := concat) (r := fun c a => sub a c = true) ps ps2 hl fun p hp q hq =>
    ⟨concat_wf p q (wfL_mem wp hp) (wfL_mem wp2 hq), concat_upper p q (wfL_mem wp hp) (wfL_mem wp2 hq)⟩
  rw [matchesParams_eq, matchesParams_eq, matchesL_iff, matchesL_iff]
  exact ⟨w, u1.flip_of fun _ _ _ _ e => e, u2.flip_of fun _ _ _ _ e => e⟩

/-- **the meet of well-formed types is well-formed and a lower bound of both**, by the recursion of `conjoin` itself
    (its functional induction principle, which hands over each arm with the call replaced by the arm's result): with
    a union on the right the meet recurses with its arguments swapped, so no induction on one argument follows it.
    For `conjoinM` and `conjoinL` the principle's unfolded result does not reduce; those two motives speak of the call
    and use the equations above.  A union is met member by member: each meet lies below the union through its member,
    and the join of the meets lies below whatever all of them lie below (`concat_below`). -/
theorem conjoin_props (a b : Ty) : wf a = true → wf b = true →
    wf (conjoin a b) = true ∧ sub (conjoin a b) a = true ∧ sub (conjoin a b) b = true := by
  refine conjoin.induct_unfolding
    (motive1 := fun a b r => wf a = true → wf b = true → wf r = true ∧ sub r a = true ∧ sub r b = true)
    (motive2 := fun ms o _ => ∀ MS, wf (.multi MS) = true → (∀ m ∈ ms, m ∈ MS) → wf o = true →
      wf (conjoinM ms o) = true ∧ sub (conjoinM ms o) (.multi MS) = true ∧ sub (conjoinM ms o) o = true)
    (motive3 := fun xs ys _ => xs.length = ys.length → wfL xs = true → wfL ys = true →
      wfL (conjoinL xs ys) = true ∧ matchesL (conjoinL xs ys) xs = true ∧ matchesL (conjoinL xs ys) ys = true)
    ?equal ?anyRight ?anyLeft ?arr ?tupLen ?tup ?multiLeft ?multiRight ?fnLen ?fnNever ?fn ?other
    ?mNil ?mOne ?mCons ?lCons ?lOther a b
  case equal =>
    intro a b he wa wb
    exact ⟨wa, sub_refl a wa, sub_of_eqv a b wa wb he⟩
  case anyRight =>
    intro o _ wo _
    exact ⟨wo, sub_refl o wo, sub_any o⟩
  case anyLeft =>
    intro o _ _ _ wo
    exact ⟨wo, sub_any o, sub_refl o wo⟩
  case arr =>
    intro x y _ ih wa wb
    rw [sub_arr, sub_arr]
    exact ih wa wb
  case tup =>
    intro xs ys hl _ ih wa wb
    rw [sub_tup, sub_tup]
    exact ih (by simpa using hl) wa wb
  case multiLeft =>
    intro ms o _ _ ih wa wb
    exact ih ms wa (fun _ h => h) wb
  case multiRight =>
    intro o ms _ _ _ ih wa wb
    obtain ⟨g1, g2, g3⟩ := ih ms wb (fun _ h => h) wa
    exact ⟨g1, g3, g2⟩
  case fn =>
    intro ps r ps2 r2 hl rt _ _ ih wa wb
    simp only [wf, Bool.and_eq_true] at wa wb
    obtain ⟨r1, r2', r3⟩ := ih wa.2 wb.2
    obtain ⟨z1, z2, z3⟩ := zipConcat_props ps ps2 (by simpa using hl) wa.1 wb.1
    refine ⟨by simp [wf, z1, rt, r1], ?_, ?_⟩
    · rw [sub_fn]; simp [z2, rt, r2']
    · rw [sub_fn]; simp [z3, rt, r3]
  -- the arms that answer `!`
  case tupLen => intros; exact ⟨rfl, sub_never _, sub_never _⟩
  case fnLen => intros; exact ⟨rfl, sub_never _, sub_never _⟩
  case fnNever => intros; exact ⟨rfl, sub_never _, sub_never _⟩
  case other => intros; exact ⟨rfl, sub_never _, sub_never _⟩
  case mNil =>
    intro o MS _ _ _
    rw [conjoinM_nil]
    exact ⟨rfl, sub_never _, sub_never _⟩
  case mOne =>
    intro m o ih MS wMS hsub wo
    have hm := hsub m List.mem_cons_self
    have wm := (member_plain_wf wMS hm).2
    obtain ⟨c1, c2, c3⟩ := ih wm wo
    rw [conjoinM_one]
    exact ⟨c1, sub_trans _ m _ c2 (member_below_union MS wMS m hm), c3⟩
  case mCons =>
    intro m ms o hne ih1 ih2 MS wMS hsub wo
    have hm := hsub m List.mem_cons_self
    have wm := (member_plain_wf wMS hm).2
    obtain ⟨c1, c2, c3⟩ := ih1 wm wo
    obtain ⟨d1, d2, d3⟩ := ih2 MS wMS (fun x hx => hsub x (List.mem_cons_of_mem _ hx)) wo
    rw [conjoinM_cons m ms o hne]
    exact ⟨concat_wf _ _ c1 d1, concat_below _ _ _ (sub_trans _ m _ c2 (member_below_union MS wMS m hm)) d2,
      concat_below _ _ _ c3 d3⟩
  case lCons =>
    intro a as b bs ih1 ih2 hl wa wb
    simp only [wfL, Bool.and_eq_true] at wa wb
    obtain ⟨c1, c2, c3⟩ := ih1 wa.1 wb.1
    obtain ⟨d1, d2, d3⟩ := ih2 (Nat.succ.inj hl) wa.2 wb.2
    rw [conjoinL_cons]
    exact ⟨by simp [wfL, c1, d1], by simp [matchesL_cons, c2, d2], by simp [matchesL_cons, c3, d3]⟩
  case lOther =>
    intro xs ys hne hl _ _
    cases xs with
    | nil =>
      obtain rfl : ys = [] := List.length_eq_zero_iff.mp hl.symm
      rw [conjoinL_nil_left]
      exact ⟨rfl, matchesL_nil, matchesL_nil⟩
    | cons x xs =>
      cases ys with
      | nil => cases hl
      | cons y ys => exact (hne x xs y ys rfl rfl).elim

/-- **the meet is a lower bound of its arguments** -/
theorem conjoin_lower (a b : Ty) (wa : wf a = true) (wb : wf b = true) :
    sub (conjoin a b) a = true ∧ sub (conjoin a b) b = true :=
  (conjoin_props a b wa wb).2

theorem conjoin_wf (a b : Ty) (wa : wf a = true) (wb : wf b = true) : wf (conjoin a b) = true :=
  (conjoin_props a b wa wb).1

end Ssl.Ty
