import SslModel.Lemmas.TyJoin
/-!
  The query folds over union members (`foldQ`, `query`), once.  The answer is related, by any preorder `R` on an
  invariant `P` that the combining step respects, to the seed and to every member's answer: join queries take
  `R a b := sub a b`, meet queries the converse.  With a total combining step a query answers exactly when every
  member answers, which is what the guards `isFunction`, `isTuple`, `isMut`, `hasField` test.  Also what the single
  queries need besides: `mut_assign_type` as such a fold, what passes `can_be_indexed`, and that a member's answer is
  well-formed when the member is (`wf_of_*`).
-/
namespace Ssl.Ty

section bound
variable {α β : Type} {P : α → Prop} {R : α → α → Prop} {base : β → Option α} {comb : α → α → Option α}

theorem foldlM_bound (hrefl : ∀ a, P a → R a a)
    (htrans : ∀ a b c, R a b → R b c → R a c)
    (hcomb : ∀ a c r, P a → P c → comb a c = some r → P r ∧ R a r ∧ R c r) :
    ∀ (ms : List β) (acc T : α), (∀ m ∈ ms, ∀ c, base m = some c → P c) → P acc →
      ms.foldlM (fun acc t => do let c ← base t; comb acc c) acc = some T →
      P T ∧ R acc T ∧ ∀ m ∈ ms, ∃ c, base m = some c ∧ R c T := by
  intro ms
  induction ms with
  | nil =>
    intro acc T _ pa h
    obtain rfl : acc = T := Option.some.inj h
    exact ⟨pa, hrefl _ pa, fun _ hm => nomatch hm⟩
  | cons m ms ih =>
    intro acc T hb pa h
    simp only [List.foldlM_cons, Option.bind_eq_bind, Option.bind_eq_some_iff] at h
    obtain ⟨a', ⟨c, hbm, hcm⟩, h⟩ := h
    have pc := hb m List.mem_cons_self c hbm
    obtain ⟨pa', r1, r2⟩ := hcomb acc c a' pa pc hcm
    obtain ⟨pT, rT, hmem⟩ := ih a' T (fun x hx => hb x (List.mem_cons_of_mem _ hx)) pa' h
    refine ⟨pT, htrans _ _ _ r1 rT, ?_⟩
    intro z hz
    rcases List.mem_cons.mp hz with rfl | hz
    · exact ⟨c, hbm, htrans _ _ _ r2 rT⟩
    · exact hmem z hz

theorem foldlM_answers {Q : α → Prop} (hc : ∀ x y, Q x → Q y → ∃ r, comb x y = some r ∧ Q r) :
    ∀ (ms : List β) (a : α), (∀ m ∈ ms, ∃ c, base m = some c ∧ Q c) → Q a →
      ∃ T, ms.foldlM (fun acc t => do let c ← base t; comb acc c) a = some T ∧ Q T := by
  intro ms
  induction ms with
  | nil => intro a _ qa; exact ⟨a, rfl, qa⟩
  | cons m ms ih =>
    intro a hb qa
    obtain ⟨c, hbm, qc⟩ := hb m List.mem_cons_self
    obtain ⟨r, hr, qr⟩ := hc a c qa qc
    simp only [List.foldlM_cons, hbm, hr, Option.bind_eq_bind, Option.bind_some]
    exact ih r (fun x hx => hb x (List.mem_cons_of_mem _ hx)) qr

end bound

section foldQ
variable {α : Type} {P : α → Prop} {R : α → α → Prop} {base : Ty → Option α} {comb : α → α → Option α}

theorem foldQ_bound (hrefl : ∀ a, P a → R a a)
    (htrans : ∀ a b c, R a b → R b c → R a c)
    (hcomb : ∀ a c r, P a → P c → comb a c = some r → P r ∧ R a r ∧ R c r)
    (ms : List Ty) (T : α) (hb : ∀ m ∈ ms, ∀ c, base m = some c → P c) (h : foldQ base comb ms = some T) :
    P T ∧ ∀ m ∈ ms, ∃ c, base m = some c ∧ R c T := by
  cases ms with
  | nil => cases h
  | cons m ms =>
    simp only [foldQ, Option.bind_eq_bind, Option.bind_eq_some_iff] at h
    obtain ⟨c, hbm, h⟩ := h
    have pc := hb m List.mem_cons_self c hbm
    obtain ⟨pT, rT, hmem⟩ :=
      foldlM_bound hrefl htrans hcomb ms c T (fun x hx => hb x (List.mem_cons_of_mem _ hx)) pc h
    refine ⟨pT, ?_⟩
    intro z hz
    rcases List.mem_cons.mp hz with rfl | hz
    · exact ⟨c, hbm, rT⟩
    · exact hmem z hz

theorem foldQ_answers {Q : α → Prop} (hc : ∀ x y, Q x → Q y → ∃ r, comb x y = some r ∧ Q r)
    {ms : List Ty} (hne : ms ≠ []) (hb : ∀ m ∈ ms, ∃ c, base m = some c ∧ Q c) :
    ∃ T, foldQ base comb ms = some T ∧ Q T := by
  cases ms with
  | nil => exact absurd rfl hne
  | cons m ms =>
    obtain ⟨c, hbm, qc⟩ := hb m List.mem_cons_self
    simp only [foldQ, hbm, Option.bind_eq_bind, Option.bind_some]
    exact foldlM_answers hc ms c (fun x hx => hb x (List.mem_cons_of_mem _ hx)) qc

theorem foldlM_isSome (hc : ∀ x y, (comb x y).isSome = true) : ∀ (ms : List Ty) (a : α),
    (ms.foldlM (fun acc t => do let c ← base t; comb acc c) a).isSome = ms.all (fun m => (base m).isSome) := by
  intro ms
  induction ms with
  | nil => intro a; rfl
  | cons m ms ih =>
    intro a
    simp only [List.foldlM_cons, List.all_cons, Option.bind_eq_bind]
    cases hbm : base m with
    | none => rfl
    | some c =>
      obtain ⟨a', ha'⟩ := Option.isSome_iff_exists.mp (hc a c)
      simp only [Option.bind_some, ha', Option.isSome_some, Bool.true_and]
      exact ih a'

theorem foldQ_isSome (hc : ∀ x y, (comb x y).isSome = true) {ms : List Ty} (hne : ms ≠ []) :
    (foldQ base comb ms).isSome = ms.all (fun m => (base m).isSome) := by
  cases ms with
  | nil => exact absurd rfl hne
  | cons m ms =>
    simp only [foldQ, List.all_cons, Option.bind_eq_bind]
    cases hbm : base m with
    | none => rfl
    | some c => exact foldlM_isSome hc ms c

end foldQ

/-! what `isFunction`, `isTuple`, `isMut`, `hasField k` have in common: a test on every member (`members`: those of a
    union, or the type itself) -/
theorem isFunction_eq (t : Ty) : isFunction t = (members t).all (fun | .fn _ _ => true | _ => false) := by
  cases t <;> rfl
theorem isTuple_eq (t : Ty) : isTuple t = (members t).all (fun | .tup _ => true | _ => false) := by
  cases t <;> rfl
theorem isMut_eq (t : Ty) : isMut t = (members t).all (fun | .cell _ => true | _ => false) := by
  cases t <;> rfl
theorem hasField_eq (k : String) (t : Ty) :
    hasField k t = (members t).all (fun | .struct fs => (lookupF k fs).isSome | _ => false) := by
  cases t <;> first | rfl | exact (Bool.and_true _).symm

theorem multi_ne_nil {ms : List Ty} (hw : wf (.multi ms) = true) : ms ≠ [] := by
  rintro rfl
  cases hw

theorem query_isSome {α : Type} {base : Ty → Option α} {comb : α → α → Option α} {p : Ty → Bool} {t : Ty}
    (hp : ∀ m, (base m).isSome = p m) (hc : ∀ x y, (comb x y).isSome = true) (hw : wf t = true) :
    (query base comb t).isSome = (members t).all p := by
  obtain rfl : p = fun m => (base m).isSome := funext fun m => (hp m).symm
  cases t with
  | multi ms => exact foldQ_isSome hc (multi_ne_nil hw)
  | _ => exact (Bool.and_true _).symm

theorem joinO_isSome (x y : Ty) : (joinO x y).isSome = true := rfl

theorem joinO_upper (a c r : Ty) (wa : wf a = true) (wc : wf c = true) (h : joinO a c = some r) :
    wf r = true ∧ sub a r = true ∧ sub c r = true := by
  cases h
  exact ⟨concat_wf a c wa wc, concat_upper a c wa wc⟩

/-- `mut_assign_type` on a union is written as one step function; it is a fold of the `base`/`comb` shape -/
theorem mutAssignType_multi (ms : List Ty) : mutAssignType (.multi ms) =
    ms.foldlM (fun acc t => do let c ← (match t with | Ty.cell e => some e | _ => none); some (conjoin acc c)) .any := by
  have hstep : (fun (acc m : Ty) => match m with | .cell e => some (conjoin acc e) | _ => none) =
      (fun acc t => do let c ← (match t with | Ty.cell e => some e | _ => none); some (conjoin acc c)) := by
    funext acc m
    cases m <;> rfl
  exact congrArg (fun f => ms.foldlM f Ty.any) hstep

theorem canBeIndexed_single (t : Ty) (h1 : isMulti t = false) (h2 : isNever t = false)
    (h : canBeIndexed t = true) : t = .str ∨ ∃ e, t = .arr e := by
  unfold canBeIndexed at h
  rw [sub_multi_right t _ h1 h2, anyMatch_eq] at h
  simp only [List.any_cons, List.any_nil, Bool.or_false, Bool.or_eq_true] at h
  rcases h with h | h
  · exact .inl (of_head_atom (by decide) (sub_head h1 h2 rfl (by simp) h).symm).symm
  · exact .inr (of_head_arr (sub_head h1 h2 rfl (by simp) h))

theorem canBeIndexed_member {ms : List Ty} (w : wf (.multi ms) = true) (h : canBeIndexed (.multi ms) = true)
    {m : Ty} (hm : m ∈ ms) : m = .str ∨ ∃ e, m = .arr e := by
  obtain ⟨⟨s1, s2, _⟩, _⟩ := member_plain_wf w hm
  exact canBeIndexed_single m s1 s2 (sub_multi_left_iff.mp h m hm)

/-! ### a member's answer inherits well-formedness from the member
    (stated on the member functions as the queries of Model/Ty write them: these are the `hb` arguments of
    `query_order_independent` and of `union_member`) -/

theorem wf_of_index (m t : Ty) : wf m = true →
    (match m with | .arr e => some e | .str => some .str | _ => none) = some t → wf t = true := by
  intro wm hb
  cases m <;> cases hb
  · rfl
  · exact wm
theorem wf_of_elem (m t : Ty) : wf m = true →
    (match m with | .arr e => some e | _ => none) = some t → wf t = true := by
  intro wm hb
  cases m <;> cases hb
  exact wm
theorem wf_of_cell (m t : Ty) : wf m = true →
    (match m with | .cell e => some e | _ => none) = some t → wf t = true := by
  intro wm hb
  cases m <;> cases hb
  exact wm
theorem wf_of_ret (m t : Ty) : wf m = true →
    (match m with | .fn _ r => some r | _ => none) = some t → wf t = true := by
  intro wm hb
  cases m <;> cases hb
  simp only [wf, Bool.and_eq_true] at wm
  exact wm.2
theorem wf_of_tupAt (n : Nat) (m t : Ty) : wf m = true →
    (match m with | .tup es => es[n]? | _ => none) = some t → wf t = true := by
  intro wm hb
  cases m <;> try cases hb
  exact wfL_mem wm (List.mem_of_getElem? hb)
theorem wf_of_field (k : String) (m t : Ty) : wf m = true →
    (match m with | .struct fs => lookupF k fs | _ => none) = some t → wf t = true := by
  intro wm hb
  cases m <;> try cases hb
  simp only [wf, Bool.and_eq_true] at wm
  exact wfF_mem wm.1 (lookupF_mem hb)

end Ssl.Ty
