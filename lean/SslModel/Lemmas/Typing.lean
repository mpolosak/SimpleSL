import SslModel.Model.Typing
import SslModel.Lemmas.Ty
/-! The equations of value-in-type membership (`Val.hasTy`), the shape of a value of a given type, and the
    first-order values (`fo`) of the weaker soundness theorem. -/
set_option linter.unusedVariables false
namespace Ssl.Val
open Ssl Ssl.Ty

theorem hasTy_any (v : Val) : hasTy v .any = true := by unfold hasTy; rfl
theorem hasTy_never (v : Val) : hasTy v .never = false := by unfold hasTy; rfl
theorem hasTy_multi (v : Val) (ms : List Ty) : hasTy v (.multi ms) = hasTyAny v ms := by rw [hasTy]

theorem hasTyAny_iff (v : Val) (ms : List Ty) :
    hasTyAny v ms = true ↔ ∃ m ∈ ms, hasTy v m = true :=
  any_of_eqns (f := hasTyAny v) (by rw [hasTyAny]) (fun m ms => by rw [hasTyAny]) ms

theorem allHasTy_iff (vs : List Val) (t : Ty) :
    allHasTy vs t = true ↔ ∀ v ∈ vs, hasTy v t = true :=
  all_of_eqns (f := (allHasTy · t)) (by rw [allHasTy]) (fun v vs => by rw [allHasTy]) vs

theorem hasTy_arr (t : Ty) (es : List Val) (e : Ty) : hasTy (.arr t es) (.arr e) = allHasTy es e := by
  simp [hasTy]
theorem hasTy_tup (vs : List Val) (ts : List Ty) : hasTy (.tup vs) (.tup ts) = hasTyL vs ts := by
  simp [hasTy]
theorem hasTy_struct (fs : List (String × Val)) (fts : List (String × Ty)) :
    hasTy (.struct fs) (.struct fts) = hasFields fs fts := by simp [hasTy]

theorem hasTyL_iff (vs : List Val) (ts : List Ty) :
    hasTyL vs ts = true ↔ Pointwise (fun v t => hasTy v t = true) vs ts :=
  pointwise_of_eqns (by rw [hasTyL]) (fun v t vs ts => by rw [hasTyL]) (fun t ts => by simp [hasTyL])
    (fun v vs => by simp [hasTyL]) vs ts

mutual
/-- first-order, cell-free values: no function and no cell anywhere inside -/
def fo : Val → Bool
  | .arr _ es => foL es
  | .tup es => foL es
  | .struct fs => foF fs
  | .fn .. => false
  | .cell .. => false
  | _ => true
def foL : List Val → Bool
  | [] => true
  | v :: vs => fo v && foL vs
def foF : List (String × Val) → Bool
  | [] => true
  | (_, v) :: fs => fo v && foF fs
end

/-! by `simp only [f]` and not `rfl`, which derives the unfolding lemma here for the modules below -/
theorem fo_arr (t : Ty) (es : List Val) : fo (.arr t es) = foL es := by simp only [fo]
theorem foL_cons (v : Val) (vs : List Val) : foL (v :: vs) = (fo v && foL vs) := by simp only [foL]

theorem foL_mem {vs : List Val} (h : foL vs = true) {x : Val} (hx : x ∈ vs) : fo x = true :=
  (all_of_eqns rfl (fun _ _ => rfl) vs).mp h x hx

theorem foL_of_mem (vs : List Val) (h : ∀ x ∈ vs, fo x = true) : foL vs = true :=
  (all_of_eqns rfl (fun _ _ => rfl) vs).mpr h

/-! the shape of a value of a given type: one unfolding of `hasTy`, and on every other shape the test is `false` -/
theorem arr_of_hasTy {v : Val} {e : Ty} (h : hasTy v (.arr e) = true) : ∃ t es, v = .arr t es := by
  unfold hasTy at h
  cases v with
  | arr t es => exact ⟨t, es, rfl⟩
  | _ => cases h
theorem tup_of_hasTy {v : Val} {ts : List Ty} (h : hasTy v (.tup ts) = true) : ∃ vs, v = .tup vs := by
  unfold hasTy at h
  cases v with
  | tup vs => exact ⟨vs, rfl⟩
  | _ => cases h
theorem int_of_hasTy {r : Val} (h : hasTy r .int = true) : ∃ k, r = .int k := by
  unfold hasTy at h
  cases r with
  | int k => exact ⟨k, rfl⟩
  | _ => cases h
theorem bool_of_hasTy {r : Val} (h : hasTy r .bool = true) : ∃ k, r = .bool k := by
  unfold hasTy at h
  cases r with
  | bool k => exact ⟨k, rfl⟩
  | _ => cases h
theorem float_of_hasTy {r : Val} (h : hasTy r .float = true) : ∃ k, r = .float k := by
  unfold hasTy at h
  cases r with
  | float k => exact ⟨k, rfl⟩
  | _ => cases h
theorem str_of_hasTy {r : Val} (h : hasTy r .str = true) : ∃ k, r = .str k := by
  unfold hasTy at h
  cases r with
  | str k => exact ⟨k, rfl⟩
  | _ => cases h
theorem struct_of_hasTy {v : Val} {fts : List (String × Ty)} (h : hasTy v (.struct fts) = true) :
    ∃ fs, v = .struct fs := by
  unfold hasTy at h
  cases v with
  | struct fs => exact ⟨fs, rfl⟩
  | _ => cases h

/-- for the catch-all arm of `matches`: when `A == B` holds between two types neither of which is
    handled by an earlier arm, a first-order value of `A` is a value of `B` -/
theorem hasTy_of_eqv_base (v : Val) (a b : Ty) (hv : fo v = true)
    (ha : a = .bool ∨ a = .int ∨ a = .float ∨ a = .str ∨ a = .void)
    (he : eqv a b = true) (h : hasTy v a = true) : hasTy v b = true := by
  cases of_head_atom (by rcases ha with rfl | rfl | rfl | rfl | rfl <;> simp [head]) (eqv_head he)
  exact h

theorem foF_mem {fs : List (String × Val)} (h : foF fs = true) {p : String × Val} (hp : p ∈ fs) : fo p.2 = true :=
  (all_of_eqns (p := fun q => fo q.2) rfl (fun _ _ => rfl) fs).mp h p hp

theorem hasField_mono (fs : List (String × Val)) (k : String) (t1 t2 : Ty)
    (himp : ∀ p ∈ fs, hasTy p.2 t1 = true → hasTy p.2 t2 = true) (h : hasField fs k t1 = true) :
    hasField fs k t2 = true := by
  induction fs with
  | nil => simp [hasField] at h
  | cons q fs ih =>
    obtain ⟨k', v⟩ := q
    rw [hasField] at h ⊢
    split
    · next hk => simp [hk] at h; exact himp (k', v) List.mem_cons_self h
    · next hk => simp [hk] at h; exact ih (fun p hp => himp p (List.mem_cons_of_mem _ hp)) h

theorem hasFields_iff (fs : List (String × Val)) (fa : List (String × Ty)) :
    hasFields fs fa = true ↔ ∀ p ∈ fa, hasField fs p.1 p.2 = true :=
  all_of_eqns (f := hasFields fs) (by rw [hasFields]) (fun ⟨k, t⟩ fa => by rw [hasFields]) fa

end Ssl.Val
