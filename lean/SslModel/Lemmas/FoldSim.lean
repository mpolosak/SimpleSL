import SslModel.Lemmas.Mono
import SslModel.Model.Fold
/-!
  Simulation up to fuel, and the facts about constants (as folded operands, as conditions), used by the
  correctness proof of the folding model (`Thm/C04Fold`).

  `Sim m m'` : for every store there is an amount of fuel from which on the family `m'` ends exactly
  as `m` does — unless `m` itself ran out of fuel.  `Pure m v` : `m` ends with the value `v` and the
  store it started from — unless it ran out of fuel.
-/
namespace Ssl.Fold
open Ssl Ssl.Spec

def Sim {α} (m : M α) (m' : Nat → M α) : Prop :=
  ∀ σ, ∃ f0, ∀ f, f0 ≤ f → LeR (m σ) (m' f σ)

def Pure {α} (m : M α) (v : α) : Prop := ∀ σ, LeR (m σ) (.ok v, σ)

theorem Sim.fuel {α} (m' : Nat → M α) : Sim (throwS .fuel) m' :=
  fun σ => ⟨0, fun _ _ => Or.inl ⟨σ, rfl⟩⟩

theorem Sim.const {α} (m : M α) : Sim m (fun _ => m) := fun _ => ⟨0, fun _ _ => .refl _⟩

theorem Sim.shift {α} {m : M α} {m' : Nat → M α} (h : Sim m (fun f => m' (f + 1))) : Sim m m' := by
  intro σ
  obtain ⟨f0, h0⟩ := h σ
  exact ⟨f0 + 1, fun
    | 0, hf => absurd hf (Nat.not_succ_le_zero f0)
    | k + 1, hf => h0 k (Nat.le_of_succ_le_succ hf)⟩

theorem Sim.shift2 {α} {m : M α} {m' : Nat → M α} (h : Sim m (fun f => m' (f + 2))) : Sim m m' :=
  Sim.shift (Sim.shift h)

/-- `Sim` read run by run; `Sim.of_runs` is the converse -/
theorem Sim.run_eq {α} {m : M α} {m' : Nat → M α} (hs : Sim m m') {σ : St} {r : Except Sig α × St}
    (hr : m σ = r) (hnf : ∀ σ', r ≠ (.error .fuel, σ')) : Eventually m' σ r := by
  obtain ⟨f0, h0⟩ := hs σ
  refine ⟨f0, fun f' hle => ?_⟩
  rcases h0 f' hle with ⟨σ', h1⟩ | h1
  · rw [hr] at h1; exact absurd h1 (hnf σ')
  · exact h1.symm.trans hr

theorem Sim.of_runs {α} {m : M α} {m' : Nat → M α}
    (h : ∀ σ, (∀ σ', m σ ≠ (.error .fuel, σ')) → Eventually m' σ (m σ)) : Sim m m' := by
  intro σ
  by_cases hf : ∃ σ', m σ = (.error .fuel, σ')
  · obtain ⟨σ', h'⟩ := hf
    exact ⟨0, fun _ _ => Or.inl ⟨σ', h'⟩⟩
  · obtain ⟨f0, h0⟩ := h σ fun σ' h' => hf ⟨σ', h'⟩
    exact ⟨f0, fun f hle => Or.inr (h0 f hle).symm⟩

theorem Sim.bindP {α β} {m : M α} {m' : Nat → M α} {k : α → M β} {k' : Nat → α → M β} {P : α → Prop}
    (h : Sim m m') (hp : Post m P) (hk : ∀ a, P a → Sim (k a) (fun f => k' f a)) :
    Sim (m >>= k) (fun f => m' f >>= k' f) := by
  refine Sim.of_runs fun σ hnf => ?_
  cases hm : m σ with
  | mk r σ1 =>
    cases r with
    | error e =>
      rw [bind_error hm] at hnf ⊢
      obtain ⟨f0, h0⟩ := h.run_eq hm fun σ' h' => hnf σ' (by cases h'; rfl)
      exact ⟨f0, fun f hf => bind_error (h0 f hf)⟩
    | ok a =>
      rw [bind_ok hm] at hnf ⊢
      obtain ⟨f0, h0⟩ := h.run_eq hm fun _ h' => by cases h'
      obtain ⟨f1, h1⟩ := (hk a (hp σ a σ1 hm)).run_eq rfl hnf
      exact ⟨max f0 f1, fun f hf => (bind_ok (h0 f (by omega))).trans (h1 f (by omega))⟩

theorem Sim.bind {α β} {m : M α} {m' : Nat → M α} {k : α → M β} {k' : Nat → α → M β}
    (h : Sim m m') (hk : ∀ a, Sim (k a) (fun f => k' f a)) :
    Sim (m >>= k) (fun f => m' f >>= k' f) :=
  Sim.bindP (P := fun _ => True) h (fun _ _ _ _ => trivial) (fun a _ => hk a)

theorem Post.of_pure {α} {m : M α} {v : α} {P : α → Prop} (h : Pure m v) (hv : P v) : Post m P := by
  intro σ a σ' hm
  rcases h σ with ⟨σ1, h1⟩ | h1
  · rw [hm] at h1; cases h1
  · rw [hm] at h1; cases h1; exact hv

/-- a monotone family simulates each of its members; `p` picks the function out of `MonoAt` -/
theorem Sim.of_monoAt {α} {m' : Nat → M α} (p : ∀ {f g}, MonoAt f g → LeM (m' f) (m' g)) (f : Nat) :
    Sim (m' f) m' := fun σ => ⟨f, fun _ hg => (p (mono hg)).apply σ⟩

theorem Sim.trans_le {α} {m0 m : M α} {m' : Nat → M α} (h0 : LeM m0 m) (h : Sim m m') : Sim m0 m' := by
  intro σ
  obtain ⟨f0, hf⟩ := h σ
  exact ⟨f0, fun f hle => (h0.apply σ).trans (hf f hle)⟩

theorem Sim.tryCatch {α} {m : M α} {m' : Nat → M α} {h : Sig → M α} {h' : Nat → Sig → M α}
    (hm : Sim m m') (hh : ∀ s, Sim (h s) (fun f => h' f s)) (hf : h .fuel = throwS .fuel) :
    Sim (tryCatchS m h) (fun f => tryCatchS (m' f) (h' f)) := by
  refine Sim.of_runs fun σ hnf => ?_
  cases hmσ : m σ with
  | mk r σ1 =>
    cases r with
    | ok a =>
      obtain ⟨f0, h0⟩ := hm.run_eq hmσ fun _ h' => by cases h'
      exact ⟨f0, fun f hle => (tryCatchS_ok (h0 f hle)).trans (tryCatchS_ok hmσ).symm⟩
    | error e =>
      rw [tryCatchS_error hmσ] at hnf ⊢
      -- a handler that passes `fuel` on: `m` did not run out of fuel either
      have he : ∀ σ', (Except.error e, σ1) ≠ ((.error .fuel, σ') : Except Sig α × St) := by
        intro σ' h'; cases h'; exact hnf σ1 (by rw [hf]; rfl)
      obtain ⟨f0, h0⟩ := hm.run_eq hmσ he
      obtain ⟨f1, h1⟩ := (hh e).run_eq rfl hnf
      exact ⟨max f0 f1, fun f hle => (tryCatchS_error (h0 f (by omega))).trans (h1 f (by omega))⟩

theorem Pure.pure {α} (v : α) : Pure (pure v : M α) v := fun _ => .refl _

theorem Pure.fuel {α} (v : α) : Pure (throwS .fuel : M α) v := fun σ => Or.inl ⟨σ, rfl⟩

theorem Pure.bind_le {α β} {m : M α} {k : α → M β} {a : α} (h : Pure m a) : LeM (m >>= k) (k a) := by
  apply LeM.intro
  intro σ
  rw [bindM_def]
  rcases h σ with ⟨σ1, h1⟩ | h1
  · left; exact ⟨σ1, by rw [h1]⟩
  · rw [h1]; exact .refl _

theorem Pure.bind {α β} {m : M α} {k : α → M β} {a : α} {b : β} (h : Pure m a) (hk : Pure (k a) b) :
    Pure (m >>= k) b :=
  fun σ => ((Pure.bind_le h).apply σ).trans (hk σ)

/-- `Pure m v` unfolds to `LeM m (pure v)`; stated because `LeM` is irreducible -/
theorem pure_of_le {α} {m : M α} {v : α} (h : LeM m (pure v)) : Pure m v := fun σ => h.apply σ

theorem Sim.of_pure {α} {m : M α} {m' : Nat → M α} {v : α} (h : Pure m v)
    (h' : ∀ σ, Eventually m' σ (.ok v, σ)) : Sim m m' :=
  Sim.trans_le (m := pure v) (LeM.intro h) fun σ =>
    let ⟨f0, hf⟩ := h' σ
    ⟨f0, fun f hle => Or.inr (hf f hle).symm⟩

theorem Pure.of_sim {α} {m : M α} {m' : Nat → M α} {v : α} (h : Sim m m')
    (h' : ∀ σ, Eventually m' σ (.ok v, σ)) : Pure m v := by
  intro σ
  obtain ⟨f0, hf⟩ := h σ
  obtain ⟨f1, hv⟩ := h' σ
  rcases hf (max f0 f1) (by omega) with h1 | h1
  · exact Or.inl h1
  · right; rw [h1, hv _ (by omega)]

theorem Post.of_sim_const {m : M Val} {m' : Nat → M Val} {v : Val} (h : Sim m m')
    (h' : ∀ σ, ∃ f0, ∀ f, f0 ≤ f → m' f σ = (.ok v, σ)) : Post m (fun a => a = v) :=
  Post.of_pure (Pure.of_sim h h') rfl

theorem Post.of_sim {α} {m : M α} {m' : Nat → M α} (h : Sim m m') :
    Post m (fun a => ∃ f' σ σ', m' f' σ = (.ok a, σ')) := by
  intro σ a σ' hm
  obtain ⟨f0, hf⟩ := h.run_eq hm fun _ h' => by cases h'
  exact ⟨f0, σ, σ', hf f0 (Nat.le_refl _)⟩

/-! ### constants evaluate to their value, in any environment, without touching the store -/

def EvC (e : Expr) : Prop := ∀ (env : Env) (σ : St), ∃ f0, ∀ f, f0 ≤ f → eval f env e σ = (.ok (valOf e), σ)
def EvCL (es : List Expr) : Prop :=
  ∀ (env : Env) (σ : St), ∃ f0, ∀ f, f0 ≤ f → evalList f env es σ = (.ok (valOfL es), σ)

mutual
theorem eval_const : ∀ (e : Expr), isConst e = true → EvC e
  | e, h => by
    -- by cases in a tactic block: a pattern match that leaves the other forms out makes the elaborator refute
    -- `isConst _ = true` for each of them, which costs ten times the proof
    cases e
    case litBool | litInt | litFloat | litStr | litUnit =>
      exact fun env σ => Eventually.of_succ fun f => by simp only [eval, valOf]; rfl
    case array es | tuple es =>
      simp only [isConst] at h
      exact fun env σ => Eventually.step (evalList_const es h env σ) fun k hk => by
        simp only [eval, bindM_def, hk, valOf]; rfl
    all_goals cases h
theorem evalList_const : ∀ (es : List Expr), isConstL es = true → EvCL es
  | [], _ => fun env σ => Eventually.of_succ fun f => by simp only [evalList, valOfL]; rfl
  | e :: es, h => by
    simp only [isConstL, Bool.and_eq_true] at h
    exact fun env σ => Eventually.step2 (eval_const e h.1 env σ) (evalList_const es h.2 env σ) fun k h0 h1 => by
      simp only [evalList, bindM_def, h0, h1, valOfL]; rfl
end

/-- a constant is pure at every fuel, not only from some fuel on -/
theorem pure_const {c : Expr} (hc : isConst c = true) (env : Env) (k : Nat) : Pure (eval k env c) (valOf c) :=
  Pure.of_sim (Sim.of_monoAt (·.eval env c) k) (eval_const c hc env)

theorem pure_of_sim {f : Nat} {env : Env} {a a' : Expr}
    (h : Sim (eval f env a) (fun f' => eval f' env a')) (hc : isConst a' = true) :
    Pure (eval f env a) (valOf a') := Pure.of_sim h (eval_const a' hc env)

theorem sim_const {m : M Val} {env : Env} {c : Expr} (hc : isConst c = true) (h : Pure m (valOf c)) :
    Sim m (fun f' => eval f' env c) := Sim.of_pure h (eval_const c hc env)

theorem pure_liftE {v : Val} {r : Except Sig Val} (h : r = .ok v) : Pure (liftE r) v := by
  subst h; exact fun σ => .refl _

theorem pure_var {env : Env} {x : String} {v : Val} (h : env.lookup x = some v) : ∀ k, Pure (eval k env (.var x)) v
  | 0 => Pure.fuel _
  | k + 1 => by rw [eval_var, h]; exact Pure.pure _

theorem Pure.cond_le {α} {m : M Val} {b : Bool} {k : Bool → M α} (h : Pure m (.bool b)) :
    LeM (do let x ← m; let x ← liftE (asBool x); k x) (k b) :=
  Pure.bind_le (k := fun x => liftE (asBool x) >>= k) h

theorem pure_bool {f : Nat} {env : Env} {c : Expr} {b : Bool}
    (hs : Sim (eval f env c) (fun f' => eval f' env (.litBool b))) : Pure (eval f env c) (.bool b) :=
  pure_of_sim (a' := .litBool b) hs rfl

theorem sim_cond {f : Nat} {env : Env} {c : Expr} {b : Bool} {k : Bool → M Val} {m' : Nat → M Val}
    (hs : Sim (eval f env c) (fun f' => eval f' env (.litBool b))) (hk : Sim (k b) m') :
    Sim (do let x ← eval f env c; let x ← liftE (asBool x); k x) m' :=
  Sim.trans_le (Pure.cond_le (pure_bool hs)) hk

theorem sim_test {f : Nat} {env : Env} {c c' : Expr} {k : Bool → M Val} {k' : Nat → Bool → M Val}
    (hs : Sim (eval f env c) (fun f' => eval f' env c')) (hk : ∀ x, Sim (k x) (fun f' => k' f' x)) :
    Sim (do let x ← eval f env c; let x ← liftE (asBool x); k x)
      (fun f' => do let x ← eval f' env c'; let x ← liftE (asBool x); k' f' x) :=
  Sim.bind hs fun _ => Sim.bind (Sim.const _) hk

theorem sim_litBool (b : Bool) (env : Env) : Sim (pure (.bool b)) (fun f' => eval f' env (.litBool b)) :=
  sim_const (c := .litBool b) rfl (Pure.pure _)

end Ssl.Fold
