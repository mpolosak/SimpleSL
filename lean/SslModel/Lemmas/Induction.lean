import SslModel.Model.Ty
import SslModel.Model.Val
/-!
  Induction on types and on values with the hypothesis for every element of the nested lists (not for a
  function value's captured environment)
  (`induction` does not work on nested inductive types; `Ty.rec` / `Val.rec` do, with motives on the
  lists that are fixed here once).
-/
namespace Ssl

/-! The size of a value, which the recursions over values decrease: its equations, by `simp only [f]` and not `rfl`,
    so that `f`'s unfolding lemma is derived here, once, for the `decreasing_by` blocks of the modules below. -/
theorem Val.size_arr (t : Ty) (es : List Val) : Val.size (.arr t es) = 1 + Val.sizeL es := by simp only [Val.size]
theorem Val.sizeL_cons (v : Val) (vs : List Val) : Val.sizeL (v :: vs) = 1 + Val.size v + Val.sizeL vs := by
  simp only [Val.sizeL]

theorem Ty.induction_mem {P : Ty → Prop}
    (bool : P .bool) (int : P .int) (float : P .float) (str : P .str) (void : P .void) (any : P .any)
    (never : P .never)
    (fn : ∀ ps r, (∀ p ∈ ps, P p) → P r → P (.fn ps r))
    (arr : ∀ e, P e → P (.arr e))
    (tup : ∀ es, (∀ e ∈ es, P e) → P (.tup es))
    (multi : ∀ ms, (∀ m ∈ ms, P m) → P (.multi ms))
    (cell : ∀ e, P e → P (.cell e))
    (struct : ∀ fs, (∀ p ∈ fs, P p.2) → P (.struct fs)) (t : Ty) : P t :=
  Ty.rec (motive_1 := P) (motive_2 := fun ts => ∀ t ∈ ts, P t) (motive_3 := fun fs => ∀ p ∈ fs, P p.2)
    (motive_4 := fun p => P p.2) bool int float str void any never fn arr tup multi cell struct
    (fun _ h => nomatch h)
    (fun _ _ h1 h2 _ ht => (List.mem_cons.mp ht).elim (· ▸ h1) (h2 _))
    (fun _ h => nomatch h)
    (fun _ _ h1 h2 _ hp => (List.mem_cons.mp hp).elim (· ▸ h1) (h2 _))
    (fun _ _ h => h) t

/-- a function value gets no hypothesis for the values of its captured environment -/
theorem Val.induction_mem {P : Val → Prop}
    (bool : ∀ b, P (.bool b)) (int : ∀ i, P (.int i)) (float : ∀ x, P (.float x)) (str : ∀ s, P (.str s))
    (unit : P .unit)
    (arr : ∀ ty es, (∀ e ∈ es, P e) → P (.arr ty es))
    (tup : ∀ es, (∀ e ∈ es, P e) → P (.tup es))
    (struct : ∀ fs, (∀ p ∈ fs, P p.2) → P (.struct fs))
    (cell : ∀ l ty, P (.cell l ty))
    (fn : ∀ id ps r body env self, P (.fn id ps r body env self)) (v : Val) : P v :=
  Val.rec (motive_1 := P) (motive_2 := fun vs => ∀ v ∈ vs, P v) (motive_3 := fun fs => ∀ p ∈ fs, P p.2)
    (motive_4 := fun p => P p.2) bool int float str unit arr tup struct cell
    (fun id ps r body env self _ => fn id ps r body env self)
    (fun _ h => nomatch h)
    (fun _ _ h1 h2 _ hv => (List.mem_cons.mp hv).elim (· ▸ h1) (h2 _))
    (fun _ h => nomatch h)
    (fun _ _ h1 h2 _ hp => (List.mem_cons.mp hp).elim (· ▸ h1) (h2 _))
    (fun _ _ h => h) v

end Ssl
