import SslModel.Lemmas.Induction
import SslModel.Lemmas.Lists
/-!
  The equations of `==` (`eqv`) and `Type::matches` (`sub`) and of their list helpers, in the form the
  proofs use them: one equation per arm on the diagonal, `eqv_head` / `sub_head` off it, membership
  statements for the list helpers.  Then reflexivity of `==` on well-formed types (that of `matches` is
  read off it in Lemmas/TyJoin).
-/
namespace Ssl.Ty

theorem size_pos (t : Ty) : 0 < size t := by cases t <;> simp only [size] <;> omega

/-! The equations of the list tests of `wf`, by `simp only [f]` and not `rfl`: this derives `f`'s unfolding lemma
    here, once, for every module below that rewrites with `f`. -/
theorem wfL_cons (t : Ty) (ts : List Ty) : wfL (t :: ts) = (wf t && wfL ts) := by simp only [wfL]
theorem wfF_cons (k : String) (t : Ty) (fs : List (String × Ty)) : wfF ((k, t) :: fs) = (wf t && wfF fs) := by
  simp only [wfF]
theorem nodupKeys_cons (k : String) (t : Ty) (fs : List (String × Ty)) :
    nodupKeys ((k, t) :: fs) = (!(fs.any (fun p => p.1 == k)) && nodupKeys fs) := by simp only [nodupKeys]

theorem wfL_iff (ts : List Ty) : wfL ts = true ↔ ∀ t ∈ ts, wf t = true :=
  all_of_eqns rfl (fun _ _ => rfl) ts

theorem wfL_mem {ts : List Ty} (h : wfL ts = true) {x : Ty} (hx : x ∈ ts) : wf x = true :=
  (wfL_iff ts).mp h x hx

theorem wfF_mem {fs : List (String × Ty)} (h : wfF fs = true) {p : String × Ty} (hp : p ∈ fs) :
    wf p.2 = true :=
  (all_of_eqns (p := fun q => wf q.2) rfl (fun _ _ => rfl) fs).mp h p hp

theorem lookupF_mem {k : String} {fs : List (String × Ty)} {t : Ty} (h : lookupF k fs = some t) :
    (k, t) ∈ fs :=
  mem_of_lookup rfl (fun _ _ _ => rfl) h

theorem nodupKeys_iff (fs : List (String × Ty)) : nodupKeys fs = true ↔ (fs.map (·.1)).Nodup :=
  keys_nodup_iff_of_eqns rfl (fun _ _ _ => rfl) fs

theorem keys_nodup {fs : List (String × Ty)} (hn : nodupKeys fs = true) : (fs.map (·.1)).Nodup :=
  (nodupKeys_iff fs).mp hn

theorem lookupF_of_mem {k : String} {t : Ty} {fs : List (String × Ty)} (hn : nodupKeys fs = true)
    (hm : (k, t) ∈ fs) : lookupF k fs = some t :=
  lookup_of_mem (fun _ _ _ => rfl) (keys_nodup hn) hm

/-! ### a type is known by its outermost constructor -/
def isMulti : Ty → Bool | .multi _ => true | _ => false
def isNever : Ty → Bool | .never => true | _ => false

/-- constructor index -/
def head : Ty → Nat
  | .bool => 0 | .int => 1 | .float => 2 | .str => 3 | .void => 4 | .any => 5 | .never => 6
  | .fn _ _ => 7 | .arr _ => 8 | .tup _ => 9 | .multi _ => 10 | .cell _ => 11 | .struct _ => 12

/-! the shape from the index (`fn` 7, `arr` 8, `tup` 9, `multi` 10, `cell` 11, `struct` 12; below 7 the constant
    types), as `eqv_head` / `sub_head` hand it over -/
theorem of_head_fn {b : Ty} (h : head b = 7) : ∃ ps r, b = .fn ps r := by
  cases b with
  | fn ps r => exact ⟨ps, r, rfl⟩
  | _ => cases h
theorem of_head_arr {b : Ty} (h : head b = 8) : ∃ e, b = .arr e := by
  cases b with
  | arr e => exact ⟨e, rfl⟩
  | _ => cases h
theorem of_head_tup {b : Ty} (h : head b = 9) : ∃ es, b = .tup es := by
  cases b with
  | tup es => exact ⟨es, rfl⟩
  | _ => cases h
theorem of_head_multi {b : Ty} (h : head b = 10) : ∃ ms, b = .multi ms := by
  cases b with
  | multi ms => exact ⟨ms, rfl⟩
  | _ => cases h
theorem of_head_cell {b : Ty} (h : head b = 11) : ∃ e, b = .cell e := by
  cases b with
  | cell e => exact ⟨e, rfl⟩
  | _ => cases h
theorem of_head_struct {b : Ty} (h : head b = 12) : ∃ fs, b = .struct fs := by
  cases b with
  | struct fs => exact ⟨fs, rfl⟩
  | _ => cases h

def atomOf : Nat → Ty
  | 0 => .bool | 1 => .int | 2 => .float | 3 => .str | 4 => .void | 5 => .any | _ => .never

theorem eq_atomOf {a : Ty} (ha : head a < 7) : a = atomOf (head a) := by
  cases a with
  | fn | arr | tup | multi | cell | struct => simp [head] at ha
  | _ => rfl

theorem of_head_atom {a b : Ty} (ha : head a < 7) (h : head a = head b) : a = b :=
  (eq_atomOf ha).trans (h ▸ (eq_atomOf (h ▸ ha)).symm)

theorem eq_multi_of_isMulti {t : Ty} (h : isMulti t = true) : ∃ ms, t = .multi ms := by
  cases t with
  | multi ms => exact ⟨ms, rfl⟩
  | _ => cases h
theorem eq_never_of_isNever {t : Ty} (h : isNever t = true) : t = .never := by
  cases t with
  | never => rfl
  | _ => cases h

/-- what a member of a union may be: no union, not `!`, not `any` -/
def PlainT (t : Ty) : Prop := isMulti t = false ∧ isNever t = false ∧ t ≠ .any

theorem membersOk_cons (x : Ty) (xs : List Ty) : membersOk (x :: xs) = true ↔ PlainT x ∧ membersOk xs = true := by
  cases x <;> simp [membersOk, PlainT, isMulti, isNever]

theorem membersOk_iff (ms : List Ty) : membersOk ms = true ↔ ∀ m ∈ ms, PlainT m := by
  induction ms with
  | nil => simp [membersOk]
  | cons x xs ih => rw [membersOk_cons, ih]; simp

theorem membersOk_mem {ms : List Ty} (h : membersOk ms = true) {m : Ty} (hm : m ∈ ms) : PlainT m :=
  (membersOk_iff ms).mp h m hm

theorem member_plain_wf {ms : List Ty} (hw : wf (.multi ms) = true) {m : Ty} (hm : m ∈ ms) :
    PlainT m ∧ wf m = true := by
  simp only [wf, Bool.and_eq_true] at hw
  exact ⟨membersOk_mem hw.1.2 hm, wfL_mem hw.1.1.2 hm⟩

/-! ### `==`: one equation per constructor, `eqv_head` off the diagonal -/
theorem eqv_fn (ps ps2 : List Ty) (r r2 : Ty) : eqv (.fn ps r) (.fn ps2 r2) = (eqvL ps ps2 && eqv r r2) := by rw [eqv]
theorem eqv_arr (a b : Ty) : eqv (.arr a) (.arr b) = eqv a b := by rw [eqv]
theorem eqv_cell (a b : Ty) : eqv (.cell a) (.cell b) = eqv a b := by rw [eqv]
theorem eqv_tup (as bs : List Ty) : eqv (.tup as) (.tup bs) = eqvL as bs := by rw [eqv]
theorem eqv_multi (as bs : List Ty) : eqv (.multi as) (.multi bs) = (as.length == bs.length && subL as bs) := by rw [eqv]
theorem eqv_struct (fa fb : List (String × Ty)) :
    eqv (.struct fa) (.struct fb) = (fa.length == fb.length && subF fa fb) := by rw [eqv]

/-- one unfolding and a split over the fourteen arms of `eqv`, not over the pairs of constructors -/
theorem eqv_head {a b : Ty} (h : eqv a b = true) : head a = head b := by
  rw [eqv.eq_def] at h
  split at h <;> first | rfl | cases h

theorem eq_of_eqv_atom {a b : Ty} (hb : head b < 7) (h : eqv a b = true) : a = b :=
  (of_head_atom hb (eqv_head h).symm).symm

theorem eq_of_eqv_bool {a : Ty} (h : eqv a .bool = true) : a = .bool := eq_of_eqv_atom (by decide) h
theorem eq_of_eqv_int {a : Ty} (h : eqv a .int = true) : a = .int := eq_of_eqv_atom (by decide) h
theorem eq_of_eqv_never {t : Ty} (h : eqv t .never = true) : t = .never := eq_of_eqv_atom (by decide) h

theorem eqvL_cons (a b : Ty) (as bs : List Ty) : eqvL (a :: as) (b :: bs) = (eqv a b && eqvL as bs) := by
  rw [eqvL]
theorem eqvL_nil_cons (b : Ty) (bs : List Ty) : eqvL [] (b :: bs) = false := by
  rw [eqvL] <;> (intros; simp_all)
theorem eqvL_cons_nil (a : Ty) (as : List Ty) : eqvL (a :: as) [] = false := by
  rw [eqvL] <;> (intros; simp_all)

theorem eqvL_iff (as bs : List Ty) : eqvL as bs = true ↔ Pointwise (fun a b => eqv a b = true) as bs :=
  pointwise_of_eqns (by rw [eqvL]) eqvL_cons eqvL_nil_cons eqvL_cons_nil as bs

theorem memL_cons (a b : Ty) (bs : List Ty) : memL a (b :: bs) = (eqv a b || memL a bs) := by
  rw [memL]

theorem memL_iff (a : Ty) (bs : List Ty) : memL a bs = true ↔ ∃ b ∈ bs, eqv a b = true :=
  any_of_eqns (f := memL a) (by rw [memL]) (fun b bs => memL_cons a b bs) bs

theorem nodupL_cons (t : Ty) (ts : List Ty) : nodupL (t :: ts) = (!memL t ts && nodupL ts) := by
  simp [nodupL]

theorem nodupL_iff (ms : List Ty) : nodupL ms = true ↔ ms.Pairwise (fun x y => eqv x y = false) := by
  induction ms with
  | nil => simp [nodupL]
  | cons m ms ih =>
    rw [nodupL_cons, Bool.and_eq_true, ih, List.pairwise_cons, Bool.not_eq_true', ← Bool.not_eq_true, memL_iff]
    simp

theorem subL_iff (as bs : List Ty) : subL as bs = true ↔ ∀ a ∈ as, memL a bs = true :=
  all_of_eqns (f := (subL · bs)) (by rw [subL]) (fun a as => by rw [subL]) as

theorem fieldEq_iff (k : String) (t : Ty) (fb : List (String × Ty)) :
    fieldEq k t fb = true ↔ ∃ t', lookupF k fb = some t' ∧ eqv t t' = true :=
  field_test_iff (g := fieldEq k t) (by rw [fieldEq]) (fun _ _ _ => by rw [fieldEq]) rfl (fun _ _ _ => rfl) fb

theorem subF_iff (fa fb : List (String × Ty)) :
    subF fa fb = true ↔ ∀ p ∈ fa, fieldEq p.1 p.2 fb = true :=
  all_of_eqns (f := (subF · fb)) (by rw [subF]) (fun ⟨k, t⟩ fa => by rw [subF]) fa

/-! `==` on unions and on structs looks from the left only: same size, and every member (field) of the left has an
    equal member (an equal type under its key) on the right -/
theorem eqv_multi_iff (as bs : List Ty) : eqv (.multi as) (.multi bs) = true ↔
    as.length = bs.length ∧ ∀ x ∈ as, ∃ y ∈ bs, eqv x y = true := by
  rw [eqv_multi, Bool.and_eq_true, beq_iff_eq, subL_iff]
  exact and_congr_right fun _ => forall₂_congr fun x _ => memL_iff x bs

theorem eqv_struct_iff (fa fb : List (String × Ty)) : eqv (.struct fa) (.struct fb) = true ↔
    fa.length = fb.length ∧ ∀ p ∈ fa, ∃ t', lookupF p.1 fb = some t' ∧ eqv p.2 t' = true := by
  rw [eqv_struct, Bool.and_eq_true, beq_iff_eq, subF_iff]
  exact and_congr_right fun _ => forall₂_congr fun p _ => fieldEq_iff p.1 p.2 fb

theorem eqv_fn_inv {ps r b} (h : eqv (.fn ps r) b = true) :
    ∃ ps2 r2, b = .fn ps2 r2 ∧ eqvL ps ps2 = true ∧ eqv r r2 = true := by
  obtain ⟨ps2, r2, rfl⟩ := of_head_fn (eqv_head h).symm
  exact ⟨_, _, rfl, by rwa [eqv_fn, Bool.and_eq_true] at h⟩
theorem eqv_arr_inv {e b} (h : eqv (.arr e) b = true) : ∃ e2, b = .arr e2 ∧ eqv e e2 = true := by
  obtain ⟨e2, rfl⟩ := of_head_arr (eqv_head h).symm
  exact ⟨_, rfl, by rwa [eqv_arr] at h⟩
theorem eqv_cell_inv {e b} (h : eqv (.cell e) b = true) : ∃ e2, b = .cell e2 ∧ eqv e e2 = true := by
  obtain ⟨e2, rfl⟩ := of_head_cell (eqv_head h).symm
  exact ⟨_, rfl, by rwa [eqv_cell] at h⟩
theorem eqv_tup_inv {es b} (h : eqv (.tup es) b = true) : ∃ es2, b = .tup es2 ∧ eqvL es es2 = true := by
  obtain ⟨es2, rfl⟩ := of_head_tup (eqv_head h).symm
  exact ⟨_, rfl, by rwa [eqv_tup] at h⟩
theorem eqv_multi_inv {ms b} (h : eqv (.multi ms) b = true) :
    ∃ ms2, b = .multi ms2 ∧ ms.length = ms2.length ∧ ∀ x ∈ ms, ∃ y ∈ ms2, eqv x y = true := by
  obtain ⟨ms2, rfl⟩ := of_head_multi (eqv_head h).symm
  exact ⟨_, rfl, (eqv_multi_iff ms ms2).mp h⟩
theorem eqv_struct_inv {fs b} (h : eqv (.struct fs) b = true) :
    ∃ fs2, b = .struct fs2 ∧ fs.length = fs2.length ∧
      ∀ p ∈ fs, ∃ t', lookupF p.1 fs2 = some t' ∧ eqv p.2 t' = true := by
  obtain ⟨fs2, rfl⟩ := of_head_struct (eqv_head h).symm
  exact ⟨_, rfl, (eqv_struct_iff fs fs2).mp h⟩

/-! ### `Type::matches`: the arms in source order -/
theorem sub_never (t : Ty) : sub .never t = true := by rw [sub]
theorem sub_arr (a b : Ty) : sub (.arr a) (.arr b) = sub a b := by rw [sub]
theorem sub_tup (as bs : List Ty) : sub (.tup as) (.tup bs) = matchesL as bs := by rw [sub]
theorem sub_fn (ps ps2 : List Ty) (r r2 : Ty) :
    sub (.fn ps r) (.fn ps2 r2) = (matchesParams ps2 ps && sub r r2) := by rw [sub]
theorem sub_struct (fa fb : List (String × Ty)) :
    sub (.struct fa) (.struct fb) = structMatches fa fb := by rw [sub]
theorem sub_multi_left (ms : List Ty) (c : Ty) : sub (.multi ms) c = allMatch ms c := by
  rw [sub.eq_def]
theorem sub_cell (a b : Ty) : sub (.cell a) (.cell b) = eqv a b := by
  rw [sub.eq_def]; exact eqv_cell a b

theorem sub_multi_right (a : Ty) (ms : List Ty) (h1 : isMulti a = false) (h2 : isNever a = false) :
    sub a (.multi ms) = anyMatch a ms := by
  rw [sub.eq_def]; split <;> simp_all [isMulti, isNever]

theorem sub_any_of_not_multi (a : Ty) (h1 : isMulti a = false) : sub a .any = true := by
  rw [sub.eq_def]; split <;> simp_all [isMulti]

theorem sub_scalar_refl (a : Ty) (h : a = .bool ∨ a = .int ∨ a = .float ∨ a = .str ∨ a = .void) :
    sub a a = true := by
  rcases h with rfl | rfl | rfl | rfl | rfl <;> (rw [sub.eq_def]; show eqv _ _ = true; rw [eqv])

/-- between non-union types other than `!` on the left and `any` on the right, `matches` relates
    only types with the same outermost constructor -/
theorem sub_head {a b : Ty} (ha1 : isMulti a = false) (ha2 : isNever a = false)
    (hb1 : isMulti b = false) (hb2 : b ≠ .any) (h : sub a b = true) : head a = head b := by
  rw [sub.eq_def] at h
  -- the arms of `sub`: `!` on the left; fn, arr, struct; a union on the left, on the right; `any` on the right; tup; `==`
  split at h
  · cases ha2
  · rfl
  · rfl
  · rfl
  · cases ha1
  · cases hb1
  · exact absurd rfl hb2
  · rfl
  · exact eqv_head h

theorem sub_never_right (a : Ty) (h1 : isMulti a = false) (h2 : isNever a = false) : sub a .never = false := by
  cases h : sub a .never with
  | false => rfl
  | true =>
    have e := sub_head h1 h2 rfl (by simp) h
    cases a
    case never => cases h2
    all_goals cases e

theorem sub_any_left (c : Ty) (h1 : isMulti c = false) (h2 : c ≠ .any) : sub .any c = false := by
  cases h : sub .any c with
  | false => rfl
  | true =>
    have e := sub_head rfl rfl h1 h2 h
    cases c
    case any => exact absurd rfl h2
    all_goals cases e

theorem allMatch_eq (ms : List Ty) (c : Ty) : allMatch ms c = ms.all (fun m => sub m c) :=
  Bool.eq_iff_iff.mpr <|
    (all_of_eqns (f := (allMatch · c)) (by rw [allMatch]) (fun m ms => by rw [allMatch]) ms).trans List.all_eq_true.symm

theorem anyMatch_eq (a : Ty) (ms : List Ty) : anyMatch a ms = ms.any (fun m => sub a m) :=
  Bool.eq_iff_iff.mpr <|
    (any_of_eqns (f := anyMatch a) (by rw [anyMatch]) (fun m ms => by rw [anyMatch]) ms).trans List.any_eq_true.symm

theorem sub_multi_left_iff {ms : List Ty} {c : Ty} : sub (.multi ms) c = true ↔ ∀ m ∈ ms, sub m c = true := by
  rw [sub_multi_left, allMatch_eq, List.all_eq_true]

theorem sub_multi_right_iff {a : Ty} {ms : List Ty} (h1 : isMulti a = false) (h2 : isNever a = false) :
    sub a (.multi ms) = true ↔ ∃ m ∈ ms, sub a m = true := by
  rw [sub_multi_right a ms h1 h2, anyMatch_eq, List.any_eq_true]

theorem matchesL_cons (a b : Ty) (as bs : List Ty) :
    matchesL (a :: as) (b :: bs) = (sub a b && matchesL as bs) := by rw [matchesL]
theorem matchesL_nil : matchesL [] [] = true := by rw [matchesL]
theorem matchesL_nil_cons (b : Ty) (bs : List Ty) : matchesL [] (b :: bs) = false := by
  rw [matchesL] <;> (intros; simp_all)
theorem matchesL_cons_nil (a : Ty) (as : List Ty) : matchesL (a :: as) [] = false := by
  rw [matchesL] <;> (intros; simp_all)

theorem matchesL_iff (as bs : List Ty) : matchesL as bs = true ↔ Pointwise (fun a b => sub a b = true) as bs :=
  pointwise_of_eqns matchesL_nil matchesL_cons matchesL_nil_cons matchesL_cons_nil as bs

theorem matchesL_get (as bs : List Ty) (n : Nat) (a b : Ty) (h : matchesL as bs = true)
    (ha : as[n]? = some a) (hb : bs[n]? = some b) : sub a b = true :=
  ((matchesL_iff as bs).mp h).get n ha hb

theorem matchesL_mem (as bs : List Ty) (a : Ty) (h : matchesL as bs = true) (ha : a ∈ as) :
    ∃ b ∈ bs, sub a b = true :=
  ((matchesL_iff as bs).mp h).exists_of_mem_left a ha

theorem matchesL_some (as bs : List Ty) (n : Nat) (b : Ty) (h : matchesL as bs = true) (hb : bs[n]? = some b) :
    as[n]? ≠ none := by
  have hl := ((matchesL_iff as bs).mp h).length_eq
  have := (List.getElem?_eq_some_iff.mp hb).1
  exact fun hn => absurd (List.getElem?_eq_none_iff.mp hn) (by omega)

/-- `FunctionType::matches` on parameters is the pointwise test of tuples (it is the caller that
    swaps the two lists), so parameter lists need no lemmas of their own -/
theorem matchesParams_eq : ∀ (as bs : List Ty), matchesParams as bs = matchesL as bs
  | [], [] => by rw [matchesParams, matchesL_nil]
  | a :: as, b :: bs => by rw [matchesParams, matchesL_cons, matchesParams_eq as bs]
  | [], b :: bs => by rw [matchesL_nil_cons]; unfold matchesParams; rfl
  | a :: as, [] => by rw [matchesL_cons_nil]; unfold matchesParams; rfl

theorem fieldMatches_iff (fa : List (String × Ty)) (k : String) (t2 : Ty) :
    fieldMatches fa k t2 = true ↔ ∃ t1, lookupF k fa = some t1 ∧ sub t1 t2 = true :=
  field_test_iff (g := (fieldMatches · k t2)) (test := (sub · t2)) (by rw [fieldMatches])
    (fun _ _ _ => by rw [fieldMatches]) rfl (fun _ _ _ => rfl) fa

theorem structMatches_iff (fa fb : List (String × Ty)) :
    structMatches fa fb = true ↔ ∀ p ∈ fb, fieldMatches fa p.1 p.2 = true :=
  all_of_eqns (f := structMatches fa) (by rw [structMatches]) (fun ⟨k, t⟩ fb => by rw [structMatches]) fb

theorem eqvL_refl_of (ts : List Ty) (hr : ∀ x ∈ ts, eqv x x = true) : eqvL ts ts = true :=
  (eqvL_iff ts ts).mpr (Pointwise.refl_of hr)

theorem eqv_refl (t : Ty) (hw : wf t = true) : eqv t t = true := by
  induction t using Ty.induction_mem with
  | fn ps r ihp ihr =>
    simp only [wf, Bool.and_eq_true] at hw
    rw [eqv_fn, Bool.and_eq_true]
    exact ⟨eqvL_refl_of ps fun x hx => ihp x hx (wfL_mem hw.1 hx), ihr hw.2⟩
  | arr e ih => rw [eqv_arr]; exact ih hw
  | cell e ih => rw [eqv_cell]; exact ih hw
  | tup es ih => rw [eqv_tup]; exact eqvL_refl_of es fun x hx => ih x hx (wfL_mem hw hx)
  | multi ms ih => exact (eqv_multi_iff ms ms).mpr ⟨rfl, fun x hx => ⟨x, hx, ih x hx (member_plain_wf hw hx).2⟩⟩
  | struct fs ih =>
    simp only [wf, Bool.and_eq_true] at hw
    exact (eqv_struct_iff fs fs).mpr ⟨rfl, fun p hp => ⟨p.2, lookupF_of_mem hw.2 hp, ih p hp (wfF_mem hw.1 hp)⟩⟩
  | _ => rw [eqv]

theorem sub_any (t : Ty) : sub t .any = true := by
  induction t using Ty.induction_mem with
  | multi ms ih => exact sub_multi_left_iff.mpr ih
  | _ => exact sub_any_of_not_multi _ rfl

theorem matchesL_refl_of (ps : List Ty) (h : ∀ p ∈ ps, sub p p = true) : matchesL ps ps = true :=
  (matchesL_iff ps ps).mpr (Pointwise.refl_of h)

end Ssl.Ty
