import SslModel.Lemmas.TyQuery
/-!
  Folds of `concat`.  The join of a list, `concatL`, is its least upper bound (`wf_concatL`,
  `members_sub_concatL`, `concatL_least`, `concatL_mono`; they stand here and not beside `concat_upper`
  because they are instances of the bound lemma of the query folds).  Hence static queries that fold the
  union members' answers with `concat` do not depend on the order in which the members are visited (C05):
  two member orders give answers that match each other.
-/
namespace Ssl.Ty

/-- what `foldQ base joinO` computes: the join of the members' answers when every member has one
    (and nothing when one has none: `foldQ_isSome`) -/
theorem foldlM_joinO_some (base : Ty → Option Ty) (g : Ty → Ty) : ∀ (ms : List Ty) (acc : Ty),
    (∀ m ∈ ms, base m = some (g m)) →
    ms.foldlM (fun acc t => do let c ← base t; joinO acc c) acc = some ((ms.map g).foldl concat acc) := by
  intro ms
  induction ms with
  | nil => intro acc _; rfl
  | cons x xs ih =>
    intro acc h
    simp only [List.foldlM_cons, List.map_cons, List.foldl_cons, h x List.mem_cons_self, Option.bind_eq_bind,
      Option.bind_some, joinO]
    exact ih (concat acc (g x)) (fun m hm => h m (List.mem_cons_of_mem _ hm))

/-- the bound lemma of the query folds (`foldlM_bound`) with every element as its own answer -/
theorem foldConcat_props (a0 : Ty) (L : List Ty) (hw : wfL (a0 :: L) = true) :
    wf (L.foldl concat a0) = true ∧ ∀ x ∈ a0 :: L, sub x (L.foldl concat a0) = true := by
  have h := foldlM_joinO_some some id L a0 (fun _ _ => rfl)
  rw [List.map_id] at h
  obtain ⟨pT, rT, hm⟩ := foldlM_bound (P := fun t => wf t = true) (R := fun a b => sub a b = true) (base := some)
    (comb := joinO) sub_refl sub_trans joinO_upper L a0 _
    (fun m hm c e => by cases e; exact wfL_mem hw (List.mem_cons_of_mem _ hm)) (wfL_mem hw List.mem_cons_self) h
  exact ⟨pT, fun x hx => (List.mem_cons.mp hx).elim (fun e => e ▸ rT) fun hx => let ⟨c, e, r⟩ := hm x hx; by cases e; exact r⟩

theorem foldConcat_least : ∀ (L : List Ty) (a0 c : Ty),
    sub a0 c = true → (∀ x ∈ L, sub x c = true) → sub (L.foldl concat a0) c = true
  | [], _, _, h0, _ => h0
  | y :: ys, a0, c, h0, hall =>
    foldConcat_least ys (concat a0 y) c (concat_below a0 y c h0 (hall y List.mem_cons_self))
      fun x hx => hall x (List.mem_cons_of_mem _ hx)

/-! ### `concatL`, the join of a list (the first element seeds the fold), is its least upper bound -/

theorem members_sub_concatL : ∀ (ts : List Ty), wfL ts = true → ∀ t ∈ ts, sub t (concatL ts) = true
  | [], _ => nofun
  | t0 :: rest, hw => (foldConcat_props t0 rest hw).2

theorem wf_concatL : ∀ (ts : List Ty), wfL ts = true → wf (concatL ts) = true
  | [], _ => rfl
  | t0 :: rest, hw => (foldConcat_props t0 rest hw).1

theorem concatL_least (ts : List Ty) (c : Ty) (h : ∀ t ∈ ts, sub t c = true) :
    sub (concatL ts) c = true := by
  cases ts with
  | nil => exact sub_never c
  | cons t0 rest =>
    exact foldConcat_least rest t0 c (h t0 List.mem_cons_self) fun x hx => h x (List.mem_cons_of_mem _ hx)

theorem concatL_mono (as bs : List Ty) (wb : wfL bs = true) (h : matchesL as bs = true) :
    sub (concatL as) (concatL bs) = true :=
  concatL_least as _ fun a ha =>
    let ⟨b, hb, hs⟩ := matchesL_mem as bs a h ha
    sub_trans a b _ hs (members_sub_concatL bs wb b hb)

theorem concatL_sub_of_subset (A B : List Ty) (wB : wfL B = true) (h : ∀ x ∈ A, x ∈ B) :
    sub (concatL A) (concatL B) = true :=
  concatL_least A _ fun x hx => members_sub_concatL B wB x (h x hx)

theorem foldQ_joinO_some (base : Ty → Option Ty) (g : Ty → Ty) (ms : List Ty) (hne : ms ≠ [])
    (h : ∀ m ∈ ms, base m = some (g m)) : foldQ base joinO ms = some (concatL (ms.map g)) := by
  cases ms with
  | nil => exact absurd rfl hne
  | cons m ms =>
    simp only [foldQ, h m List.mem_cons_self, Option.bind_eq_bind, Option.bind_some, List.map_cons, concatL]
    exact foldlM_joinO_some base g ms (g m) (fun x hx => h x (List.mem_cons_of_mem _ hx))

theorem wfL_map (g : Ty → Ty) : ∀ (L : List Ty), (∀ m ∈ L, wf (g m) = true) → wfL (L.map g) = true
  | [], _ => rfl
  | x :: xs, h => by
    simp only [List.map_cons, wfL, Bool.and_eq_true]
    exact ⟨h x List.mem_cons_self, wfL_map g xs (fun m hm => h m (List.mem_cons_of_mem _ hm))⟩

/-- **a query that folds the members' answers with `concat` does not depend on the order of the members**:
    for two orders of a well-formed union's members, either both have no answer, or both answers match each other -/
theorem query_order_independent (base : Ty → Option Ty) (hb : ∀ m t, wf m = true → base m = some t → wf t = true)
    (ms ms' : List Ty) (hp : ms.Perm ms') (hw : wf (.multi ms) = true) :
    (query base joinO (.multi ms) = none ∧ query base joinO (.multi ms') = none) ∨
    ∃ r r', query base joinO (.multi ms) = some r ∧ query base joinO (.multi ms') = some r' ∧
      sub r r' = true ∧ sub r' r = true := by
  have hne := multi_ne_nil hw
  have hne' : ms' ≠ [] := fun e => hne (List.perm_nil.mp (e ▸ hp))
  simp only [query]
  cases hall : ms.all (fun m => (base m).isSome) with
  | false =>
    left
    have h1 := foldQ_isSome (comb := joinO) joinO_isSome (base := base) hne
    have h2 := foldQ_isSome (comb := joinO) joinO_isSome (base := base) hne'
    rw [← hp.all_eq, hall] at h2
    rw [hall] at h1
    exact ⟨by simpa using h1, by simpa using h2⟩
  | true =>
    right
    rw [List.all_eq_true] at hall
    let g : Ty → Ty := fun m => (base m).getD .never
    have hg : ∀ m ∈ ms, base m = some (g m) := by
      intro m hm
      obtain ⟨t, ht⟩ := Option.isSome_iff_exists.mp (hall m hm)
      simp [g, ht]
    have hg' : ∀ m ∈ ms', base m = some (g m) := fun m hm => hg m (hp.mem_iff.mpr hm)
    have wg : ∀ m ∈ ms, wf (g m) = true := fun m hm => hb m _ (member_plain_wf hw hm).2 (hg m hm)
    have w1 := wfL_map g ms wg
    have w2 := wfL_map g ms' (fun m hm => wg m (hp.mem_iff.mpr hm))
    have hp' := hp.map g
    exact ⟨_, _, foldQ_joinO_some base g ms hne hg, foldQ_joinO_some base g ms' hne' hg',
      concatL_sub_of_subset _ _ w2 (fun x => hp'.mem_iff.mp),
      concatL_sub_of_subset _ _ w1 (fun x => hp'.mem_iff.mpr)⟩

end Ssl.Ty
