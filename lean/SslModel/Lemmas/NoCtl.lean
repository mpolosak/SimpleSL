import SslModel.Lemmas.SpecEq
/-!
  Expressions of the forms the grammar allows as a `while` condition never end in `break` or
  `continue` (those signals come from statements only; the handler of a call turns them into `wrong`): `noCtl_all`;
  nor does a `while` on such a condition (`whileGo_noCtl`).
-/
namespace Ssl.Fold
open Ssl Ssl.Spec

def isCtl : Sig → Bool
  | .brk | .cont => true
  | _ => false

def NoCtl {α} (m : M α) : Prop := ∀ σ s σ', m σ = (.error s, σ') → isCtl s = false

theorem NoCtl.pure {α} (a : α) : NoCtl (pure a : M α) := by
  intro σ s σ' h; cases h

theorem NoCtl.throw {α} (s : Sig) (h : isCtl s = false) : NoCtl (throwS s : M α) := by
  intro σ s' σ' hm; cases hm; exact h

theorem NoCtl.wrong {α} (w : String) : NoCtl (Spec.wrong w : M α) := NoCtl.throw _ rfl

theorem NoCtl.bind {α β} {m : M α} {k : α → M β} (h : NoCtl m) (hk : ∀ a, NoCtl (k a)) : NoCtl (m >>= k) := by
  intro σ s σ' hm
  rcases bind_eq_error hm with hm | ⟨a, σ1, _, hm⟩
  · exact h σ s σ' hm
  · exact hk a σ1 s σ' hm

theorem NoCtl.liftE {α} (r : Except Sig α) (h : ∀ s, r = .error s → isCtl s = false) : NoCtl (liftE r) := by
  intro σ s σ' hm
  cases r with
  | ok a => cases hm
  | error e => cases hm; exact h _ rfl

theorem binScalar_noCtl (op : BinOp) (x y : Val) (s : Sig) (h : binScalar op x y = .error s) : isCtl s = false := by
  rcases binScalar_sig op x y s h with ⟨_, rfl⟩ | ⟨_, rfl⟩ <;> rfl

theorem preScalar_wrong (op : PreOp) (x : Val) (s : Sig) (h : preScalar op x = .error s) : ∃ w, s = .wrong w := by
  unfold preScalar at h
  split at h <;> first | (cases h; done) | (cases h; exact ⟨_, rfl⟩)

theorem preScalar_noCtl (op : PreOp) (x : Val) (s : Sig) (h : preScalar op x = .error s) : isCtl s = false := by
  obtain ⟨_, rfl⟩ := preScalar_wrong op x s h
  rfl

theorem atVal_noCtl (x y : Val) (s : Sig) (h : atVal x y = .error s) : isCtl s = false := by
  unfold atVal at h
  repeat' (first | (cases h; done) | (cases h; rfl) | split at h | (dsimp only at h))

theorem asBool_noCtl (x : Val) (s : Sig) (h : asBool x = .error s) : isCtl s = false := by
  unfold asBool at h
  split at h <;> first | (cases h; done) | (cases h; rfl)

theorem callFn_noCtl (f : Nat) (fv : Val) (args : List Val) : NoCtl (callFn f fv args) := by
  intro σ s σ' h
  obtain ⟨h1, h2, _⟩ := callFn_error h
  cases s <;> first | rfl | exact absurd rfl h1 | exact absurd rfl h2

theorem bodyOnce_noCtl (f : Nat) (env : Env) (b : Expr) : NoCtl (bodyOnce f env b) := by
  intro σ s σ' h
  obtain ⟨h1, h2⟩ := bodyOnce_error h
  cases s <;> first | rfl | exact absurd rfl h1 | exact absurd rfl h2

theorem readCell_noCtl (loc : Nat) : NoCtl (readCell loc) := by
  intro σ s σ' h
  unfold readCell at h
  split at h <;> first | (cases h; done) | (cases h; rfl)

theorem writeCell_noCtl (loc : Nat) (v : Val) : NoCtl (writeCell loc v) := by
  intro σ s σ' h
  unfold writeCell at h
  split at h <;> first | (cases h; done) | (cases h; rfl)

theorem newCell_noCtl (t : Ty) (v : Val) : NoCtl (newCell t v) := by
  intro σ s σ' h; cases h

theorem freshId_noCtl : NoCtl freshId := by
  intro σ s σ' h; cases h

theorem optIdx_noCtl (o : Option Val) (s : Sig) (h : optIdx o = .error s) : isCtl s = false := by
  unfold optIdx at h
  split at h <;> first | (cases h; done) | (cases h; rfl)

theorem sliceVal_noCtl (x : Val) (a b c : Option Val) (s : Sig) (h : sliceVal x a b c = .error s) : isCtl s = false := by
  unfold sliceVal at h
  cases ha : optIdx a with
  | error e => rw [ha] at h; cases h; exact optIdx_noCtl a _ ha
  | ok a' =>
    cases hb : optIdx b with
    | error e => rw [ha, hb] at h; cases h; exact optIdx_noCtl b _ hb
    | ok b' =>
      cases hc : optIdx c with
      | error e => rw [ha, hb, hc] at h; cases h; exact optIdx_noCtl c _ hc
      | ok c' =>
        rw [ha, hb, hc] at h
        simp only [bind, Except.bind] at h
        split at h <;> first | (cases h; done) | (cases h; rfl)

attribute [local irreducible] NoCtl

mutual
/-- the expression forms covered: everything the grammar's `expr` can be, except function literals and modules -/
def condForm : Expr → Bool
  | .litBool _ | .litInt _ | .litFloat _ | .litStr _ | .litUnit | .var _ => true
  | .array es => condFormL es
  | .tuple es => condFormL es
  | .struct fs => condFormF fs
  | .arrayRepeat v n => condForm v && condForm n
  | .mutE _ e => condForm e
  | .pre _ e => condForm e
  | .and a b => condForm a && condForm b
  | .or a b => condForm a && condForm b
  | .bin _ a b => condForm a && condForm b
  | .assign _ t v => condForm t && condForm v
  | .at a i => condForm a && condForm i
  | .slice a s e st => condForm a && condFormO s && condFormO e && condFormO st
  | .tacc e _ => condForm e
  | .facc e _ => condForm e
  | .tfilter e _ => condForm e
  | .post _ e => condForm e
  | .reduce it init f => condForm it && condForm init && condForm f
  | .call f args => condForm f && condFormL args
  | _ => false
def condFormO : Option Expr → Bool
  | none => true
  | some e => condForm e
def condFormL : List Expr → Bool
  | [] => true
  | e :: es => condForm e && condFormL es
def condFormF : List (String × Expr) → Bool
  | [] => true
  | (_, e) :: es => condForm e && condFormF es
end

/-! the equations of `condForm`, one per form it admits (each holds by unfolding; rewriting with these and not with
    `condForm` itself spares Lean the derivation of the equations of the whole mutual block) -/

theorem condForm_array (es : List Expr) : condForm (.array es) = condFormL es := rfl
theorem condForm_tuple (es : List Expr) : condForm (.tuple es) = condFormL es := rfl
theorem condForm_struct (fs : List (String × Expr)) : condForm (.struct fs) = condFormF fs := rfl
theorem condForm_arrayRepeat (v n : Expr) : condForm (.arrayRepeat v n) = (condForm v && condForm n) := rfl
theorem condForm_mutE (t : Option Ty) (e : Expr) : condForm (.mutE t e) = condForm e := rfl
theorem condForm_pre (op : PreOp) (e : Expr) : condForm (.pre op e) = condForm e := rfl
theorem condForm_and (a b : Expr) : condForm (.and a b) = (condForm a && condForm b) := rfl
theorem condForm_or (a b : Expr) : condForm (.or a b) = (condForm a && condForm b) := rfl
theorem condForm_bin (op : BinOp) (a b : Expr) : condForm (.bin op a b) = (condForm a && condForm b) := rfl
theorem condForm_assign (op : AssignOp) (t v : Expr) : condForm (.assign op t v) = (condForm t && condForm v) := rfl
theorem condForm_at (a i : Expr) : condForm (.at a i) = (condForm a && condForm i) := rfl
theorem condForm_slice (a : Expr) (s e st : Option Expr) :
    condForm (.slice a s e st) = (condForm a && condFormO s && condFormO e && condFormO st) := rfl
theorem condForm_tacc (e : Expr) (n : Nat) : condForm (.tacc e n) = condForm e := rfl
theorem condForm_facc (e : Expr) (k : String) : condForm (.facc e k) = condForm e := rfl
theorem condForm_tfilter (e : Expr) (t : Ty) : condForm (.tfilter e t) = condForm e := rfl
theorem condForm_post (op : PostOp) (e : Expr) : condForm (.post op e) = condForm e := rfl
theorem condForm_reduce (it init f : Expr) :
    condForm (.reduce it init f) = (condForm it && condForm init && condForm f) := rfl
theorem condForm_call (f : Expr) (args : List Expr) : condForm (.call f args) = (condForm f && condFormL args) := rfl
theorem condFormO_some (e : Expr) : condFormO (some e) = condForm e := rfl
theorem condFormL_cons (e : Expr) (es : List Expr) : condFormL (e :: es) = (condForm e && condFormL es) := rfl
theorem condFormF_cons (k : String) (e : Expr) (fs : List (String × Expr)) :
    condFormF ((k, e) :: fs) = (condForm e && condFormF fs) := rfl

structure NoCtlAt (f : Nat) : Prop where
  eval : ∀ env e, condForm e = true → NoCtl (eval f env e)
  evalList : ∀ env es, condFormL es = true → NoCtl (evalList f env es)
  evalOpt : ∀ env e, condFormO e = true → NoCtl (evalOpt f env e)
  evalFields : ∀ env fs, condFormF fs = true → NoCtl (evalFields f env fs)
  pull : ∀ it, NoCtl (pull f it)
  collectGo : ∀ it acc, NoCtl (collectGo f it acc)
  partitionGo : ∀ it p l r, NoCtl (partitionGo f it p l r)
  reduceGo : ∀ it acc g, NoCtl (reduceGo f it acc g)
  boolGo : ∀ it u, NoCtl (boolGo f it u)

/-- one step, chosen by the shape of the computation; the continuation of a bind and the bind itself first (most
    steps are these), the leaves last.  Not hygienic: the side conditions are read off the hypothesis called `hc` at the
    call site -/
syntax "noctl_step" ident : tactic
set_option hygiene false in
macro_rules
  | `(tactic| noctl_step $ih:ident) => `(tactic| first
      | intro _
      | with_reducible apply NoCtl.bind
      | with_reducible apply NoCtl.pure
      | with_reducible apply NoCtl.wrong
      | (with_reducible apply ($ih).eval; first | assumption | (simp only [hc]; done))
      | (with_reducible apply ($ih).evalList; first | assumption | (simp only [hc]; done))
      | (with_reducible apply ($ih).evalOpt; first | assumption | (simp only [hc]; done))
      | (with_reducible apply ($ih).evalFields; first | assumption | (simp only [hc]; done))
      | with_reducible apply callFn_noCtl
      | with_reducible apply readCell_noCtl
      | with_reducible apply writeCell_noCtl
      | with_reducible apply newCell_noCtl
      | with_reducible apply freshId_noCtl
      | with_reducible apply ($ih).pull
      | with_reducible apply ($ih).collectGo
      | with_reducible apply ($ih).partitionGo
      | with_reducible apply ($ih).reduceGo
      | with_reducible apply ($ih).boolGo
      | ((with_reducible apply NoCtl.throw) <;> rfl)
      | with_reducible exact NoCtl.liftE _ (sliceVal_noCtl _ _ _ _)
      | with_reducible exact NoCtl.liftE _ (binScalar_noCtl _ _ _)
      | with_reducible exact NoCtl.liftE _ (preScalar_noCtl _ _)
      | with_reducible exact NoCtl.liftE _ (atVal_noCtl _ _)
      | with_reducible exact NoCtl.liftE _ (asBool_noCtl _)
      | (split <;> try simp only []))

theorem noCtlAt_zero : NoCtlAt 0 := by
  -- without fuel every function of the block is `throwS .fuel`, by its first equation
  constructor <;> intros <;> exact NoCtl.throw .fuel rfl

theorem noCtlAt_succ (f : Nat) (ih : NoCtlAt f) : NoCtlAt (f + 1) := by
  constructor
  · intro env e hc
    cases e
    case pre op e =>
      rw [condForm_pre] at hc
      cases op <;> simp only [eval] <;> repeat (any_goals (noctl_step ih))
    case bin op a b =>
      -- by hand, so that the seventeen scalar operators are one case and not seventeen runs of the macro
      simp only [condForm_bin, Bool.and_eq_true] at hc
      by_cases h : isIterOp op = false
      · rw [eval_bin_scalar _ _ _ _ _ h]
        exact .bind (ih.eval _ _ hc.1) fun _ => .bind (ih.eval _ _ hc.2) fun _ => .liftE _ (binScalar_noCtl _ _ _)
      · cases op
        case map | filter | partition => simp only [eval]; repeat (any_goals (noctl_step ih))
        all_goals exact absurd rfl h
    case post op e =>
      rw [condForm_post] at hc
      cases op <;> simp only [eval] <;> repeat (any_goals (noctl_step ih))
    case litBool | litInt | litFloat | litStr | litUnit | var => simp only [eval]; repeat (any_goals (noctl_step ih))
    all_goals
      first
      | (cases hc; done)
      | (simp only [condForm_array, condForm_tuple, condForm_struct, condForm_arrayRepeat, condForm_mutE, condForm_and,
           condForm_or, condForm_assign, condForm_at, condForm_slice, condForm_tacc, condForm_facc, condForm_tfilter,
           condForm_reduce, condForm_call, Bool.and_eq_true] at hc
         simp only [eval]
         repeat (any_goals (noctl_step ih)))
  · intro env es hc
    cases es with
    | nil => simp only [evalList]; exact NoCtl.pure _
    | cons e es =>
      simp only [condFormL_cons, Bool.and_eq_true] at hc
      simp only [evalList]
      repeat (any_goals (noctl_step ih))
  · intro env e hc
    cases e with
    | none => simp only [evalOpt]; exact NoCtl.pure _
    | some e =>
      rw [condFormO_some] at hc
      simp only [evalOpt]
      repeat (any_goals (noctl_step ih))
  · intro env fs hc
    cases fs with
    | nil => simp only [evalFields]; exact NoCtl.pure _
    | cons p fs =>
      obtain ⟨k, e⟩ := p
      simp only [condFormF_cons, Bool.and_eq_true] at hc
      simp only [evalFields]
      repeat (any_goals (noctl_step ih))
  · intro it; simp only [pull]; repeat (any_goals (noctl_step ih))
  · intro it acc; simp only [collectGo]; repeat (any_goals (noctl_step ih))
  · intro it p l r; simp only [partitionGo]; repeat (any_goals (noctl_step ih))
  · intro it acc g; simp only [reduceGo]; repeat (any_goals (noctl_step ih))
  · intro it u; simp only [boolGo]; repeat (any_goals (noctl_step ih))

theorem noCtl_all : ∀ f, NoCtlAt f
  | 0 => noCtlAt_zero
  | f + 1 => noCtlAt_succ f (noCtl_all f)

/-- a `while` whose condition lets no `break` / `continue` out lets none out itself: its body's are caught -/
theorem whileGo_noCtl (env : Env) (c body : Expr) (hc : ∀ k, NoCtl (eval k env c)) : ∀ f, NoCtl (whileGo f env c body)
  | 0 => NoCtl.throw .fuel rfl
  | f + 1 => by
    simp only [whileGo]
    refine .bind (hc f) fun cv => .bind (.liftE _ (asBool_noCtl cv)) fun b => ?_
    cases b
    · exact .pure _
    · exact .bind (bodyOnce_noCtl f env body) fun go => by
        cases go
        · exact .pure _
        · exact whileGo_noCtl env c body hc f

end Ssl.Fold
