import SslModel.Model.TyText
import SslModel.Lemmas.Lists
/-!
  The lexer of `Model/TyText` on rendered token lists: `lex (render ts) = some ts` for every token list in which no
  two words meet (`adjOk`; `mut` brings its own space) and every word is a word (`wordsOk`) - `lex_render`.
  The second half names the two conditions together (`LexOk`) and shows them kept by the ways the printer builds
  token lists (a bracket around, a separator between, `joinT`); `Thm/C15` reads off that printed types meet them.
-/
namespace Ssl.TyLex
open Ssl Ssl.Ty Ssl.TyText

/-- `render` on character lists -/
def chars : List Tok → List Char
  | [] => []
  | .word "mut" :: rest => "mut ".toList ++ chars rest
  | t :: rest => t.text.toList ++ chars rest

theorem render_toList (ts : List Tok) : (render ts).toList = chars ts := by
  induction ts with
  | nil => simp [render, chars]
  | cons t ts ih =>
    cases t with
    | word s =>
      by_cases h : s = "mut"
      · subst h; simp [render, chars, String.toList_append, ih]
      · have e1 : render (.word s :: ts) = (Tok.word s).text ++ render ts := by
          simp [render, h]
        have e2 : chars (.word s :: ts) = (Tok.word s).text.toList ++ chars ts := by
          simp [chars, h]
        rw [e1, e2, String.toList_append, ih]
    | _ => simp [render, chars, String.toList_append, ih]

def isWordTok : Tok → Bool | .word _ => true | _ => false

/-- no two word tokens meet, except that `mut` (printed with a space) may be followed by one -/
def adjOk : List Tok → Bool
  | [] => true
  | [_] => true
  | .word w :: .word v :: rest => (w == "mut") && adjOk (.word v :: rest)
  | _ :: rest => adjOk rest

/-- `adjOk` for one pair of neighbours (`adjOk_cons2`): may `y` follow `x` directly? two words only after `mut` -/
def adj2 : Tok → Tok → Bool
  | .word w, .word _ => w == "mut"
  | _, _ => true

theorem adjOk_cons2 (x y : Tok) (ts : List Tok) : adjOk (x :: y :: ts) = (adj2 x y && adjOk (y :: ts)) := by
  cases x with
  | word w => cases y <;> simp [adjOk, adj2]
  | _ => simp [adjOk, adj2]

theorem adj2_punct_left (p y : Tok) (hp : isWordTok p = false) : adj2 p y = true := by
  cases p <;> first | rfl | cases hp

theorem adj2_punct_right (x p : Tok) (hp : isWordTok p = false) : adj2 x p = true := by
  cases x with
  | word w => cases p <;> first | rfl | cases hp
  | _ => rfl

theorem adjOk_tail (t : Tok) (ts : List Tok) (h : adjOk (t :: ts) = true) : adjOk ts = true := by
  cases ts with
  | nil => rfl
  | cons t2 ts => rw [adjOk_cons2, Bool.and_eq_true] at h; exact h.2

def wordOk (s : String) : Bool := !s.toList.isEmpty && s.toList.all isWordChar
def wordsOk (ts : List Tok) : Bool := ts.all fun | .word s => wordOk s | _ => true

def noWordStart : List Char → Bool
  | [] => true
  | c :: _ => !isWordChar c

theorem lex_word (s : String) (hs : wordOk s = true) (rest : List Char) (hr : noWordStart rest = true)
    (f : Nat) (acc : List Tok) :
    lexGo (f + 1) (s.toList ++ rest) acc = lexGo f rest (.word s :: acc) := by
  simp only [wordOk, Bool.and_eq_true, Bool.not_eq_true'] at hs
  cases hl : s.toList with
  | nil => simp [hl] at hs
  | cons c cs =>
    have hall : (c :: cs).all isWordChar = true := by rw [← hl]; exact hs.2
    have hc : isWordChar c = true := by simp only [List.all_cons, Bool.and_eq_true] at hall; exact hall.1
    obtain ⟨t1, t2⟩ := takeWhile_dropWhile_append isWordChar (c :: cs) rest (List.all_eq_true.mp hall)
      (by rintro d ds rfl; simpa [noWordStart] using hr)
    have ne : ∀ p : Char, isWordChar p = false → (c == p) = false := by
      intro p hp
      cases h : (c == p) with
      | false => rfl
      | true => have : c = p := by simpa using h
                rw [this, hp] at hc; cases hc
    have hsof : String.ofList (c :: cs) = s := by rw [← hl]; exact String.ofList_toList
    simp only [List.cons_append] at t1 t2 ⊢
    rw [lexGo.eq_def]
    simp only [ne ' ' (by decide), ne '\t' (by decide), ne '\n' (by decide), ne '\r' (by decide),
      ne '(' (by decide), ne ')' (by decide), ne '[' (by decide), ne ']' (by decide), ne '{' (by decide),
      ne '}' (by decide), ne ',' (by decide), ne '|' (by decide), ne ':' (by decide), ne '!' (by decide),
      ne '-' (by decide), hc, Bool.false_eq_true, if_false, Bool.or_false, if_true, t1, t2, hsof]

/-- lexer steps a non-word token takes (its character, plus the space after `,` and `:`) -/
def steps : Tok → Nat
  | .comma | .colon => 2
  | _ => 1

theorem lex_punct (t : Tok) (ht : isWordTok t = false) (rest : List Char) (f : Nat) (acc : List Tok) :
    lexGo (f + steps t) (t.text.toList ++ rest) acc = lexGo f rest (t :: acc) := by
  cases t with
  | word s => cases ht
  | _ => rfl

theorem noWordStart_punct (t : Tok) (ht : isWordTok t = false) (rest : List Char) :
    noWordStart (t.text.toList ++ rest) = true := by
  cases t <;> simp [isWordTok] at ht <;> simp [Tok.text, noWordStart] <;> decide

theorem chars_word (s : String) (h : s ≠ "mut") (ts : List Tok) : chars (.word s :: ts) = s.toList ++ chars ts := by
  simp [chars, h, Tok.text]

theorem chars_punct (t : Tok) (ht : isWordTok t = false) (ts : List Tok) : chars (t :: ts) = t.text.toList ++ chars ts := by
  cases t <;> simp [isWordTok] at ht <;> simp [chars]

theorem noWordStart_chars (ts : List Tok) (h : ∀ t ts', ts = t :: ts' → isWordTok t = false) :
    noWordStart (chars ts) = true := by
  cases ts with
  | nil => rfl
  | cons t ts' => rw [chars_punct t (h t ts' rfl)]; exact noWordStart_punct t (h t ts' rfl) _

theorem wordOk_length_pos (s : String) (hs : wordOk s = true) : 1 ≤ s.toList.length := by
  simp only [wordOk, Bool.and_eq_true, Bool.not_eq_true'] at hs
  cases h : s.toList with
  | nil => simp [h] at hs
  | cons c cs => simp

theorem lex_chars : ∀ (ts : List Tok), adjOk ts = true → wordsOk ts = true → ∀ (f : Nat) (acc : List Tok),
    (chars ts).length + 1 ≤ f → lexGo f (chars ts) acc = some (acc.reverse ++ ts) := by
  intro ts
  induction ts with
  | nil =>
    intro _ _ f acc hf
    obtain _ | g := f
    · omega
    simp only [chars, List.append_nil]
    rfl
  | cons t ts ih =>
    intro ha hw f acc hf
    have ha' := adjOk_tail t ts ha
    have hw' : wordsOk ts = true := by simp only [wordsOk, List.all_cons, Bool.and_eq_true] at hw ⊢; exact hw.2
    by_cases hword : isWordTok t = true
    · cases t <;> simp [isWordTok] at hword
      rename_i s
      have hs : wordOk s = true := by simp only [wordsOk, List.all_cons, Bool.and_eq_true] at hw; exact hw.1
      by_cases hm : s = "mut"
      · subst hm
        have e : chars (.word "mut" :: ts) = "mut".toList ++ (' ' :: chars ts) := by simp [chars]
        rw [e] at hf ⊢
        simp only [List.length_append, List.length_cons] at hf
        have : ("mut".toList).length = 3 := by decide
        obtain ⟨g, rfl⟩ : ∃ g, f = g + 2 := ⟨f - 2, by omega⟩
        rw [lex_word "mut" hs (' ' :: chars ts) (by simp [noWordStart]; decide) (g + 1) acc]
        have h2 : lexGo (g + 1) (' ' :: chars ts) (.word "mut" :: acc) = lexGo g (chars ts) (.word "mut" :: acc) := rfl
        rw [h2, ih ha' hw' g (.word "mut" :: acc) (by omega)]
        simp
      · rw [chars_word s hm ts] at hf ⊢
        simp only [List.length_append] at hf
        have := wordOk_length_pos s hs
        obtain _ | g := f
        · omega
        have hns : noWordStart (chars ts) = true := by
          apply noWordStart_chars
          intro t2 ts2 hts
          subst hts
          cases t2 with
          | word v => simp only [adjOk, Bool.and_eq_true, beq_iff_eq] at ha; exact absurd ha.1 hm
          | _ => rfl
        rw [lex_word s hs (chars ts) hns g acc, ih ha' hw' g (.word s :: acc) (by omega)]
        simp
    · have hword' : isWordTok t = false := by simpa using hword
      rw [chars_punct t hword' ts] at hf ⊢
      simp only [List.length_append] at hf
      have hst : steps t ≤ t.text.toList.length := by
        cases t <;> simp [isWordTok] at hword' <;> simp [steps, Tok.text]
      obtain ⟨g, rfl⟩ : ∃ g, f = g + steps t := ⟨f - steps t, by omega⟩
      rw [lex_punct t hword' (chars ts) g acc, ih ha' hw' g (t :: acc) (by omega)]
      simp

/-- the text `Display` writes for a token list is split by the lexer into that list again, provided no two words
    meet (except after `mut`) and the words are non-empty runs of word characters -/
theorem lex_render (ts : List Tok) (ha : adjOk ts = true) (hw : wordsOk ts = true) : lex (render ts) = some ts := by
  unfold lex
  rw [render_toList]
  have hl : (render ts).length = (chars ts).length := by
    rw [← String.length_toList, render_toList]
  rw [hl]
  simpa using lex_chars ts ha hw ((chars ts).length + 1) [] (Nat.le_refl _)

theorem adjOk_punct_cons (p : Tok) (hp : isWordTok p = false) (ts : List Tok) : adjOk (p :: ts) = adjOk ts := by
  cases ts with
  | nil => rfl
  | cons t ts => rw [adjOk_cons2, adj2_punct_left p t hp, Bool.true_and]

theorem adjOk_append_punct (a b : List Tok) (p : Tok) (hp : isWordTok p = false) :
    adjOk (a ++ p :: b) = (adjOk a && adjOk b) := by
  induction a with
  | nil => simp [adjOk, adjOk_punct_cons p hp]
  | cons x a ih =>
    cases a with
    | nil => rw [List.singleton_append, adjOk_cons2, adj2_punct_right x p hp, adjOk_punct_cons p hp]; simp [adjOk]
    | cons y a =>
      rw [List.cons_append, List.cons_append, adjOk_cons2, adjOk_cons2, ← List.cons_append, ih, Bool.and_assoc]

/-- what `lex_render` asks of a token list.  The lemmas below are the ways the printer builds one: a non-word token
    in front, a key and `:` in front, `mut` in front, a non-word token between two lists, `join` with such a separator. -/
def LexOk (ts : List Tok) : Prop := adjOk ts = true ∧ wordsOk ts = true

theorem lexOk_nil : LexOk [] := ⟨rfl, rfl⟩

theorem lexOk_punct_cons {p : Tok} (hp : isWordTok p = false) {ts : List Tok} (h : LexOk ts) : LexOk (p :: ts) :=
  ⟨by rw [adjOk_punct_cons p hp]; exact h.1, by cases p <;> first | exact h.2 | cases hp⟩

theorem lexOk_word_punct {k : String} (hk : wordOk k = true) {p : Tok} (hp : isWordTok p = false) {ts : List Tok}
    (h : LexOk ts) : LexOk (.word k :: p :: ts) :=
  ⟨by rw [adjOk_cons2, adj2_punct_right _ p hp, adjOk_punct_cons p hp]; exact h.1,
   by show (wordOk k && wordsOk (p :: ts)) = true; rw [hk]; exact (lexOk_punct_cons hp h).2⟩

theorem lexOk_mut_cons {ts : List Tok} (h : LexOk ts) : LexOk (.word "mut" :: ts) :=
  ⟨by cases ts with
      | nil => rfl
      | cons t ts => rw [adjOk_cons2]; cases t <;> exact h.1,
   by show (wordOk "mut" && wordsOk ts) = true; rw [h.2]; decide⟩

theorem lexOk_append_punct {p : Tok} (hp : isWordTok p = false) {a b : List Tok} (ha : LexOk a) (hb : LexOk b) :
    LexOk (a ++ p :: b) :=
  ⟨by rw [adjOk_append_punct a b p hp, ha.1, hb.1]; rfl,
   by rw [wordsOk, List.all_append, ← wordsOk, ← wordsOk, ha.2, (lexOk_punct_cons hp hb).2]; rfl⟩

/-- `join(items, sep)` on token lists: what `toksSep`, `toksBar` and `toksFields` all are -/
def joinT (sep : Tok) : List (List Tok) → List Tok
  | [] => []
  | [x] => x
  | x :: y :: xs => x ++ sep :: joinT sep (y :: xs)

/-- the items after the first, each preceded by the separator -/
def tailT (sep : Tok) (xs : List (List Tok)) : List Tok := xs.flatMap (sep :: ·)

theorem tailT_cons (sep : Tok) (x : List Tok) (xs : List (List Tok)) : tailT sep (x :: xs) = sep :: (x ++ tailT sep xs) := by
  simp [tailT]

theorem joinT_cons (sep : Tok) (x : List Tok) (xs : List (List Tok)) : joinT sep (x :: xs) = x ++ tailT sep xs := by
  induction xs generalizing x with
  | nil => simp [joinT, tailT]
  | cons y ys ih => simp [joinT, tailT_cons, ih y]

theorem lexOk_joinT {sep : Tok} (hs : isWordTok sep = false) : ∀ xs : List (List Tok),
    (∀ x ∈ xs, LexOk x) → LexOk (joinT sep xs)
  | [], _ => lexOk_nil
  | [x], h => h x (by simp)
  | x :: y :: xs, h =>
    lexOk_append_punct hs (h x (by simp)) (lexOk_joinT hs (y :: xs) fun z hz => h z (by simp [hz]))

/-- token count of a joined list against the summed sizes of its items (`szL` is `sizeL` or `sizeF`) -/
theorem len_joinT {α : Type} (sep : Tok) (txt : α → List Tok) (sz : α → Nat) (szL : List α → Nat)
    (h0 : szL [] = 0) (hc : ∀ x xs, szL (x :: xs) = 1 + sz x + szL xs) : ∀ xs : List α,
    (∀ x ∈ xs, sz x + 1 ≤ 2 * (txt x).length) → szL xs + 2 * xs.length ≤ 2 * (joinT sep (xs.map txt)).length + 2
  | [], _ => by simp [h0]
  | [x], h => by have := h x (by simp); simp [joinT, hc, h0]; omega
  | x :: y :: xs, h => by
    have h1 := h x (by simp)
    have h2 := len_joinT sep txt sz szL h0 hc (y :: xs) (fun z hz => h z (by simp [hz]))
    rw [hc]
    simp only [List.map_cons, joinT, List.length_cons, List.length_append] at h2 ⊢
    omega

end Ssl.TyLex
