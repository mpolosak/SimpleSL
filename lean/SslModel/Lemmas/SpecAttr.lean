import Lean.Meta.Tactic.Simp.RegisterCommand
/-- the one-step equations of the reference evaluator and the rules of its monad -/
register_simp_attr spec_eq

/-- looking a literal name up in a literal environment: the lookup functions, the list functions that `x := …` and
    `(x, y) := …` build a frame with, and the Boolean literals a test ends in; string literals are compared by
    `String.reduceBEq`, the `if` on the outcome is taken by `↓reduceIte` (before the branches are looked at) -/
register_simp_attr spec_env
