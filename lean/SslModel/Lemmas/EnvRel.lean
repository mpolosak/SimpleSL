import SslModel.Model.CheckF
import SslModel.Lemmas.SpecEq
import SslModel.Lemmas.Lists
/-!
  A run-time environment against a static environment, for any relation `P` between a static type and a value.  The
  environment invariants of the evaluator-level proofs (`C01.EnvOk`, `CF.EnvOkG`, `CS.EnvOkG S`) unfold to `EnvRel P` for
  their own `P`; what `:=`, a binding frame, a block and a call do to the invariant is shown here once.  Bindings against
  bindings and parameters against arguments are `Pointwise` relations (Lemmas/Lists).
-/
namespace Ssl.Spec
open Ssl Ssl.Ty Ssl.Check Ssl.CheckF

variable {P Q : Ty → Val → Prop}

def EnvRel (P : Ty → Val → Prop) (env : Env) (g : TEnv) : Prop :=
  ∀ x t, g.lookup x = some t → ∃ v, env.lookup x = some v ∧ P t v

theorem EnvRel.mono {env : Env} {g : TEnv} (h : EnvRel P env g) (hpq : ∀ t v, P t v → Q t v) : EnvRel Q env g :=
  fun x t hx => let ⟨v, hv, hp⟩ := h x t hx; ⟨v, hv, hpq t v hp⟩

/-- a new binding on both sides, wherever the evaluator puts it: the new run-time environment answers the new name with
    the new value and every other name as before -/
theorem EnvRel.cons {env env' : Env} {g : TEnv} {x : String} {v : Val} {t : Ty} (h : EnvRel P env g) (hv : P t v)
    (same : env'.lookup x = some v) (other : ∀ y, (x == y) = false → env'.lookup y = env.lookup y) :
    EnvRel P env' ((x, t) :: g) := by
  intro y ty hy
  simp only [TEnv.lookup] at hy
  split at hy
  · rename_i hxy
    have : y = x := by simpa using hxy
    cases hy; subst this
    exact ⟨v, same, hv⟩
  · rename_i hxy
    obtain ⟨w, hw, hp⟩ := h y ty hy
    exact ⟨w, by rw [other y (by rw [BEq.comm]; simpa using hxy)]; exact hw, hp⟩

theorem EnvRel.insert {env : Env} {g : TEnv} (h : EnvRel P env g) (x : String) {v : Val} {t : Ty} (hv : P t v) :
    EnvRel P (env.insert x v) ((x, t) :: g) :=
  h.cons hv (Spec.lookup_insert_same env x v) (fun y hy => Spec.lookup_insert_other env x y v hy)

theorem EnvRel.bind {env : Env} {g : TEnv} (h : EnvRel P env g) (x : String) {v : Val} {t : Ty} (hv : P t v) :
    EnvRel P ([(x, v)] :: env) ((x, t) :: g) :=
  h.cons hv (Spec.lookup_inner_frame env x v) (fun y hy => Spec.lookup_inner_frame_other env x y v hy)

theorem EnvRel.push {env : Env} {g : TEnv} (h : EnvRel P env g) : EnvRel P ([] :: env) g :=
  fun x t hx => let ⟨v, hv, hp⟩ := h x t hx; ⟨v, by simpa [Env.lookup, frameLookup] using hv, hp⟩

/-- bindings of types against bindings of values, name by name -/
abbrev BindRel (P : Ty → Val → Prop) : List (String × Ty) → List (String × Val) → Prop :=
  Pointwise fun p q => p.1 = q.1 ∧ P p.2 q.2

theorem BindRel.lookup : ∀ {a : List (String × Ty)} {b : List (String × Val)} {g : TEnv} {fr : Frame} {y : String} {t : Ty},
    BindRel P a b → (∀ t, g.lookup y = some t → ∃ v, frameLookup y fr = some v ∧ P t v) →
    TEnv.lookup y (a ++ g) = some t → ∃ v, frameLookup y (b ++ fr) = some v ∧ P t v
  | [], [], g, fr, y, t, _, hf, h => by simpa using hf t (by simpa using h)
  | (n, t0) :: a, (m, v0) :: b, g, fr, y, t, hr, hf, h => by
    obtain ⟨rfl, hv⟩ := hr.1
    simp only [List.cons_append, TEnv.lookup] at h
    simp only [List.cons_append, frameLookup]
    split at h
    · rename_i hyn
      have : y = n := by simpa using hyn
      cases h; subst this
      exact ⟨v0, by simp, hv⟩
    · rename_i hyn
      rw [if_neg (by rw [BEq.comm]; exact hyn)]
      exact BindRel.lookup hr.2 hf h

/-- parameters against arguments, in order -/
abbrev ArgsRel (P : Ty → Val → Prop) : List (String × Ty) → List Val → Prop := Pointwise fun p v => P p.2 v

theorem ArgsRel.zip : ∀ {ps : List (String × Ty)} {args : List Val}, ArgsRel P ps args →
    BindRel P ps (List.zip (ps.map (·.1)) args)
  | [], [], _ => trivial
  | _ :: _, _ :: _, h => ⟨⟨rfl, h.1⟩, ArgsRel.zip h.2⟩

/-- what `CF.bodyEnv` and `CS.bodyEnv` unfold to -/
def calleeTEnv (self : Option String) (ps : List (String × Ty)) (rt : Ty) (Γ : TEnv) : TEnv :=
  bindParams ps (match self with
    | some x => (x, .fn (ps.map (·.2)) rt) :: Γ
    | none => Γ)

/-- the environment a function body runs in respects the environment its body was checked in -/
theorem EnvRel.callee (fv : Val) (ps : List (String × Ty)) (rt : Ty) (cap : Frame) (self : Option String)
    (args : List Val) (Γ : TEnv) (hargs : ArgsRel P ps args)
    (hself : ∀ x, self = some x → P (.fn (ps.map (·.2)) rt) fv)
    (hcap : ∀ x t, Γ.lookup x = some t → ∃ v, frameLookup x cap = some v ∧ P t v) :
    EnvRel P (calleeEnv fv ps cap self args) (calleeTEnv self ps rt Γ) := by
  intro y t hy
  unfold calleeEnv
  rw [lookup_two_frames]
  unfold calleeTEnv bindParams at hy
  have hr := (ArgsRel.zip hargs).reverse
  cases self with
  | none =>
    simp only [List.append_nil] at hy ⊢
    exact BindRel.lookup hr (hcap y) hy
  | some x =>
    have hr2 : BindRel P (ps.reverse ++ [(x, Ty.fn (ps.map (·.2)) rt)]) ((List.zip (ps.map (·.1)) args).reverse ++ [(x, fv)]) :=
      hr.append ⟨⟨rfl, hself x rfl⟩, trivial⟩
    have hy' : TEnv.lookup y ((ps.reverse ++ [(x, Ty.fn (ps.map (·.2)) rt)]) ++ Γ) = some t := by simpa using hy
    obtain ⟨v, hv, hvt⟩ := BindRel.lookup hr2 (hcap y) hy'
    exact ⟨v, by simpa using hv, hvt⟩

end Ssl.Spec
