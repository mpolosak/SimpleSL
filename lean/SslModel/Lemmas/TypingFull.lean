import SslModel.Lemmas.Typing
import SslModel.Lemmas.TyTrans
/-!
  Soundness of `Type::matches` for values, for ALL values (functions and cells included) and all types:
  functions go by transitivity of `matches` (`sub_trans`) and cells by transitivity of `==`, neither of
  which asks for well-formedness.  `okv` (every function value inside carries a well-formed signature) is what
  the statement in Thm/C01 assumes.
-/
namespace Ssl.Val
open Ssl Ssl.Ty

mutual
/-- every function value inside carries a well-formed type (its declared signature) -/
def okv : Val → Bool
  | .arr _ es => okvL es
  | .tup es => okvL es
  | .struct fs => okvF fs
  | .fn id ps r body env self => Ty.wf (Val.fn id ps r body env self).asType
  | _ => true
def okvL : List Val → Bool
  | [] => true
  | v :: vs => okv v && okvL vs
def okvF : List (String × Val) → Bool
  | [] => true
  | (_, v) :: fs => okv v && okvF fs
end

theorem okvL_mem {vs : List Val} (h : okvL vs = true) {x : Val} (hx : x ∈ vs) : okv x = true :=
  (all_of_eqns rfl (fun _ _ => rfl) vs).mp h x hx

theorem okvF_mem {fs : List (String × Val)} (h : okvF fs = true) {p : String × Val} (hp : p ∈ fs) : okv p.2 = true :=
  (all_of_eqns (p := fun q => okv q.2) rfl (fun _ _ => rfl) fs).mp h p hp

/-- a value of a union is a value of a member and `!` has no values: what holds of the types below
    `B` that are neither a union nor `!` holds of all types below `B` -/
theorem sound_of_single {v : Val} {B : Ty}
    (h : ∀ A, isMulti A = false → isNever A = false → sub A B = true → hasTy v A = true → hasTy v B = true)
    (A : Ty) (hsub : sub A B = true) (hA : hasTy v A = true) : hasTy v B = true := by
  induction A using Ty.induction_mem with
  | multi ms ih =>
    obtain ⟨m, hmem, hm⟩ := (hasTyAny_iff v ms).mp (hasTy_multi v ms ▸ hA)
    exact ih m hmem (sub_multi_left_iff.mp hsub m hmem) hm
  | never => rw [hasTy_never] at hA; cases hA
  | _ => exact h _ rfl rfl hsub hA

/-- so below a `B` that is neither a union nor `any` only the types with the outermost constructor of
    `B` remain (`sub_head`) -/
theorem sound_of_head {v : Val} {B : Ty} (hB1 : isMulti B = false) (hB2 : B ≠ .any)
    (h : ∀ A, head A = head B → sub A B = true → hasTy v A = true → hasTy v B = true)
    (A : Ty) (hsub : sub A B = true) (hA : hasTy v A = true) : hasTy v B = true :=
  sound_of_single (fun A a1 a2 hs hA => h A (sub_head a1 a2 hB1 hB2 hs) hs hA) A hsub hA

/-- **whenever `A` matches `B`, every value of `A` is a value of `B`**: all values (functions and cells
    included) and all types, by induction on `B`.  A value of a union on the left is a value of a member;
    otherwise `A` and `B` have the same outermost constructor (`sub_head`) and the components are compared; a
    function value is judged by `matches` on its signature, a cell by `==` on its content type, and both
    relations are transitive. -/
theorem hasTy_of_sub (v : Val) (A B : Ty) (hsub : sub A B = true) (hA : hasTy v A = true) : hasTy v B = true := by
  induction B using Ty.induction_mem generalizing v A with
  | any => exact hasTy_any v
  | never =>
    refine sound_of_single (fun A a1 a2 hs _ => ?_) A hsub hA
    rw [sub_never_right A a1 a2] at hs; cases hs
  | multi ms ih =>
    refine sound_of_single (fun A a1 a2 hs hA => ?_) A hsub hA
    obtain ⟨m, hmem, hm⟩ := (sub_multi_right_iff a1 a2).mp hs
    rw [hasTy_multi, hasTyAny_iff]
    exact ⟨m, hmem, ih m hmem v A hm hA⟩
  | fn ps r _ _ =>
    refine sound_of_head rfl (by simp) (fun A e hs hA => ?_) A hsub hA
    obtain ⟨ps', r', rfl⟩ := of_head_fn e
    unfold hasTy at hA ⊢
    cases v with
    | fn => exact Ty.sub_trans _ _ _ hA hs
    | _ => cases hA
  | arr e ih =>
    refine sound_of_head rfl (by simp) (fun A e hs hA => ?_) A hsub hA
    obtain ⟨a, rfl⟩ := of_head_arr e
    obtain ⟨t, es, rfl⟩ := arr_of_hasTy hA
    rw [sub_arr] at hs
    rw [hasTy_arr, allHasTy_iff] at hA ⊢
    exact fun x hx => ih x a hs (hA x hx)
  | tup ts ih =>
    refine sound_of_head rfl (by simp) (fun A e hs hA => ?_) A hsub hA
    obtain ⟨as, rfl⟩ := of_head_tup e
    obtain ⟨vs, rfl⟩ := tup_of_hasTy hA
    rw [sub_tup, matchesL_iff] at hs
    rw [hasTy_tup, hasTyL_iff] at hA ⊢
    exact hA.comp_of (fun v _ a _ t ht h1 h2 => ih t ht v a h2 h1) hs
  | cell e _ =>
    refine sound_of_head rfl (by simp) (fun A e hs hA => ?_) A hsub hA
    obtain ⟨e', rfl⟩ := of_head_cell e
    rw [sub_cell] at hs
    unfold hasTy at hA ⊢
    cases v with
    | cell => exact Ty.eqv_trans _ _ _ hA hs
    | _ => cases hA
  | struct fts ih =>
    refine sound_of_head rfl (by simp) (fun A e hs hA => ?_) A hsub hA
    obtain ⟨fa, rfl⟩ := of_head_struct e
    obtain ⟨fs, rfl⟩ := struct_of_hasTy hA
    rw [sub_struct, structMatches_iff] at hs
    rw [hasTy_struct, hasFields_iff] at hA ⊢
    intro q hq
    obtain ⟨t1, hl, hsub1⟩ := (fieldMatches_iff fa q.1 q.2).mp (hs q hq)
    exact hasField_mono fs q.1 t1 q.2 (fun pv _ => ih q hq pv.2 t1 hsub1) (hA _ (lookupF_mem hl))
  | _ =>
    refine sound_of_head rfl (by simp) (fun A e _ hA => ?_) A hsub hA
    cases of_head_atom (by simp [head]) e.symm
    exact hA

end Ssl.Val
