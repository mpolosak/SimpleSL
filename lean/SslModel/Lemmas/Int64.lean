import SslModel.Model.Int64
/-!
  For the scalar-operator theorems (C08): what the guards mean on `toInt`, the equations of `IntOp.interp` by guard
  list, and the specification of the square-and-multiply loop (`sqMulLoop_spec`: it computes `acc * base ^ exp`), on
  which `C08.pow_correct` rests.
-/
namespace Ssl
open BitVec

abbrev M64 : Nat := 2 ^ 64

def IsInt (r : Except ExecErr Scalar) (v : Int) : Prop :=
  ∃ x : I64, r = .ok (.int x) ∧ x.toInt = v

def IsBool (r : Except ExecErr Scalar) (v : Bool) : Prop := r = .ok (.bool v)

theorem holds_rhsZero (b : I64) : Guard.rhsZero.holds b = true ↔ b.toInt = 0 := by
  simp only [Guard.holds, beq_iff_eq]
  constructor
  · intro h; subst h; decide
  · intro h; apply BitVec.toInt_inj.mp; rw [h]; decide

theorem holds_rhsNegative (b : I64) : Guard.rhsNegative.holds b = true ↔ b.toInt < 0 := by
  simp only [Guard.holds, BitVec.slt_iff_toInt_lt]
  have : (0 : I64).toInt = 0 := by decide
  rw [this]

theorem holds_rhsOutside (b : I64) :
    Guard.rhsOutside0to63.holds b = true ↔ (b.toInt < 0 ∨ 63 < b.toInt) := by
  simp only [Guard.holds, Bool.or_eq_true, BitVec.slt_iff_toInt_lt]
  have h0 : (0 : I64).toInt = 0 := by decide
  have h63 : (63 : I64).toInt = 63 := by decide
  rw [h0, h63]

theorem interp_unguarded (op : IntOp) (hop : op.guards = []) (a b : I64) :
    op.interp a b = .ok (op.body.eval a b) := by
  simp [IntOp.interp, hop, firstError]

theorem interp_guarded (op : IntOp) {g : Guard} {err : ExecErr} (hop : op.guards = [(g, err)])
    (a b : I64) :
    op.interp a b = if g.holds b then .error err else .ok (op.body.eval a b) := by
  simp only [IntOp.interp, hop, firstError]
  cases g.holds b <;> rfl

theorem interp_error_iff (op : IntOp) {g : Guard} {err : ExecErr} (hop : op.guards = [(g, err)])
    {P : Prop} {b : I64} (hP : g.holds b = true ↔ P) (a : I64) (e : ExecErr) :
    op.interp a b = .error e ↔ (P ∧ e = err) := by
  rw [interp_guarded op hop, ← hP]
  cases g.holds b <;> simp [eq_comm]

theorem interp_of_not_guard (op : IntOp) {g : Guard} {err : ExecErr} (hop : op.guards = [(g, err)])
    {P : Prop} {b : I64} (hP : g.holds b = true ↔ P) (hn : ¬ P) (a : I64) :
    op.interp a b = .ok (op.body.eval a b) := by
  rw [interp_guarded op hop, if_neg (mt hP.mp hn)]

theorem toNat_toInt_of_nonneg (b : I64) (h : 0 ≤ b.toInt) : b.toInt.toNat = b.toNat := by
  have := BitVec.toInt_eq_toNat_of_msb (x := b) (by
    rw [← Bool.not_eq_true, BitVec.msb_eq_toInt]; simp; omega)
  omega

theorem toInt_pow (a : I64) (n : Nat) : (a ^ n).toInt = (a.toInt ^ n).bmod M64 := by
  induction n with
  | zero => simp; decide
  | succ n ih =>
    rw [BitVec.pow_succ, BitVec.toInt_mul, ih, Int.bmod_mul_bmod, Int.pow_succ]

theorem sq_pow (b : I64) (k : Nat) : (b * b) ^ k = b ^ (2 * k) := by
  induction k with
  | zero => simp
  | succ k ih =>
    rw [BitVec.pow_succ, ih, show 2 * (k + 1) = 2 * k + 1 + 1 from by omega,
      BitVec.pow_succ, BitVec.pow_succ, BitVec.mul_assoc]

theorem sqMulLoop_spec (fuel : Nat) : ∀ (acc base : I64) (exp : Nat), exp < 2 ^ fuel →
    sqMulLoop fuel acc base exp = acc * base ^ exp := by
  induction fuel with
  | zero =>
    intro acc base exp h
    have : exp = 0 := by simpa using h
    subst this; simp [sqMulLoop]
  | succ fuel ih =>
    intro acc base exp h
    unfold sqMulLoop
    split
    · next h0 => subst h0; simp
    · next h0 =>
      have hlt : exp / 2 < 2 ^ fuel := by
        have : 2 ^ (fuel + 1) = 2 * 2 ^ fuel := by rw [Nat.pow_succ]; omega
        omega
      rw [ih _ _ _ hlt]
      have hsq : (base * base) ^ (exp / 2) = base ^ (2 * (exp / 2)) := sq_pow base (exp / 2)
      rw [hsq]
      split
      · next h1 =>
        have he : exp = 2 * (exp / 2) + 1 := by omega
        conv => rhs; rw [he, BitVec.pow_add]
        simp [BitVec.mul_assoc, BitVec.mul_comm]
      · next h1 =>
        have he : exp = 2 * (exp / 2) := by omega
        conv => rhs; rw [he]

theorem powSqMulU64Val_eq (a b : I64) : powSqMulU64Val a b = a ^ b.toNat := by
  unfold powSqMulU64Val
  rw [sqMulLoop_spec 64 1 a b.toNat b.isLt]; simp

theorem wrappingPowU32Val_eq (a b : I64) : wrappingPowU32Val a b = a ^ (b.toNat % 2 ^ 32) := by
  unfold wrappingPowU32Val
  rw [sqMulLoop_spec 32 1 a _ (Nat.mod_lt _ (by decide))]; simp

end Ssl
