import SslModel.Lemmas.Check
import SslModel.Lemmas.EnvRel
import SslModel.Lemmas.TypingFull
import SslModel.Lemmas.TyOrder
/-!
Lists of values against lists of types, and `Val.Inv`: what the evaluator-level soundness proofs use of their invariant
on values (`CF.Good`, `CS.Good S`; a `C01.plain` value is under every such invariant) - under it, arrays built by the evaluator, slice bounds and the arguments
of a call are what the checker says they are.
-/
namespace Ssl.CheckF
open Ssl Ssl.Ty

/-- the argument check of a call is the pointwise `matches` of tuples -/
theorem argsOk_eq : ∀ (as bs : List Ty), argsOk as bs = matchesL as bs
  | [], [] => by rw [argsOk, matchesL]
  | a :: as, b :: bs => by rw [argsOk, matchesL, argsOk_eq as bs]
  | [], _ :: _ => by rw [argsOk, matchesL] <;> simp
  | _ :: _, [] => by rw [argsOk, matchesL] <;> simp

/-- the tags of the arguments below the static argument types, and those accepted for the parameters -/
theorem matchesL_argsOk (as bs cs : List Ty) (h1 : matchesL as bs = true) (h2 : argsOk bs cs = true) :
    matchesL as cs = true :=
  matchesL_trans as bs cs h1 (argsOk_eq bs cs ▸ h2)

end Ssl.CheckF

namespace Ssl.Val
open Ssl Ssl.Ty Ssl.Spec Ssl.Check

theorem asTypeL_eq_map : ∀ vs : List Val, asTypeL vs = vs.map asType
  | [] => by rw [asTypeL, List.map_nil]
  | v :: vs => by rw [asTypeL, asTypeL_eq_map vs, List.map_cons]

theorem asTypeL_get (vs : List Val) (n : Nat) (v : Val) (h : vs[n]? = some v) : (asTypeL vs)[n]? = some v.asType := by
  rw [asTypeL_eq_map, List.getElem?_map, h, Option.map_some]

theorem asTypeL_none (vs : List Val) (n : Nat) (h : vs[n]? = none) : (asTypeL vs)[n]? = none := by
  rw [asTypeL_eq_map, List.getElem?_map, h, Option.map_none]

theorem asType_mem (vs : List Val) (v : Val) (h : v ∈ vs) : v.asType ∈ asTypeL vs :=
  asTypeL_eq_map vs ▸ List.mem_map_of_mem h

theorem mem_asTypeL (vs : List Val) (t : Ty) (h : t ∈ asTypeL vs) : ∃ v ∈ vs, v.asType = t :=
  List.mem_map.mp (asTypeL_eq_map vs ▸ h)

/-- what an operator answers on operands of its types: a value with `P`, or a documented error -/
def OkOrErr {α} (P : α → Prop) : Except Spec.Sig α → Prop
  | .ok a => P a
  | .error s => ∃ e, s = .err e

/-- what `evalOpt` yields for an optional slice bound against what the checker answers for it -/
def OptRel (P : Ty → Val → Prop) : Option Val → Option Ty → Prop
  | some v, some t => P t v
  | none, none => True
  | _, _ => False

theorem tag_shape (v : Val) : isMulti v.asType = false ∧ isNever v.asType = false := by
  cases v <;> simp [asType, isMulti, isNever]

theorem sub_tag_never (v : Val) : sub v.asType .never = false :=
  sub_never_right _ (tag_shape v).1 (tag_shape v).2

theorem not_never_of_tag {t : Ty} {v : Val} (h : sub v.asType t = true) : eqv t .never = false := by
  cases hq : eqv t .never with
  | false => rfl
  | true => rw [eq_of_eqv_never hq, sub_tag_never] at h; cases h

/-- an invariant on values as the outcome proofs use it: scalars are under it; a value under it has a well-formed tag
    and inhabits every type above its tag; an array is under it exactly when its stored tag is well-formed
    and above the tags of its elements and the elements are under it, a tuple when its components are -/
structure Inv (G : Val → Prop) : Prop where
  bool : ∀ b, G (.bool b)
  int : ∀ i, G (.int i)
  float : ∀ x, G (.float x)
  str : ∀ s, G (.str s)
  unit : G .unit
  wf_tag : ∀ {v}, G v → wf v.asType = true
  hasTy_of_tag : ∀ {v T}, G v → sub v.asType T = true → hasTy v T = true
  arr : ∀ {t es}, G (.arr t es) ↔ wf t = true ∧ (∀ e ∈ es, sub e.asType t = true) ∧ ∀ e ∈ es, G e
  tup : ∀ {es}, G (.tup es) ↔ ∀ e ∈ es, G e

/-- the arguments of a call, with tags below the static parameter types of the operand, against the callee's own
    parameter types: `matches` on function types is contravariant in the parameters -/
theorem argsRel_of_tags {G : Val → Prop} (ps : List (String × Ty)) (pts : List Ty) (args : List Val)
    (hm : matchesParams pts (ps.map (·.2)) = true)
    (h1 : matchesL (asTypeL args) pts = true) (h2 : ∀ v ∈ args, G v) :
    ArgsRel (fun t v => sub v.asType t = true ∧ G v) ps args := by
  rw [asTypeL_eq_map, matchesL_iff] at h1
  rw [matchesParams_eq, matchesL_iff] at hm
  refine Pointwise.flip_of (fun _ _ _ _ h => h) (Pointwise.comp_of (fun v hv pt hpt p hp hvp hpp => ?_)
    (Pointwise.map_left asType h1) (Pointwise.map_right (·.2) hm))
  exact ⟨sub_trans _ pt p.2 hvp hpp, h2 v hv⟩

variable {G : Val → Prop} (I : Inv G)
include I

theorem Inv.wfL_asTypeL (vs : List Val) (h : ∀ v ∈ vs, G v) : wfL (asTypeL vs) = true :=
  (wfL_iff _).mpr fun t ht => by
    obtain ⟨v, hv, rfl⟩ := mem_asTypeL vs t ht
    exact I.wf_tag (h v hv)

/-- `Array::from(elements)`: the stored tag is the join of the elements' tags, so it lies above each of them -/
theorem Inv.mkArray (vs : List Val) (h : ∀ v ∈ vs, G v) : G (Val.mkArray vs) :=
  have hw := I.wfL_asTypeL vs h
  I.arr.mpr ⟨wf_concatL _ hw, fun v hv => members_sub_concatL (asTypeL vs) hw v.asType (asType_mem vs v hv), h⟩

/-- a slice bound the checker accepted (`boundOk`: absent, or of type int) is an index at run time -/
theorem Inv.optIdx_ok (ov : Option Val) (ot : Option Ty) (hr : OptRel (fun t v => sub v.asType t = true ∧ G v) ov ot)
    (hb : boundOk ot = true) : ∃ oi, optIdx ov = .ok oi := by
  cases ov with
  | none => exact ⟨none, rfl⟩
  | some v =>
    cases ot with
    | none => cases hr
    | some t =>
      simp only [boundOk] at hb
      have e := eq_of_eqv_int hb
      subst e
      obtain ⟨k, rfl⟩ := int_of_hasTy (I.hasTy_of_tag hr.2 hr.1)
      exact ⟨some k.toInt, rfl⟩

end Ssl.Val
