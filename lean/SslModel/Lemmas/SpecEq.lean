import SslModel.Model.Spec
import SslModel.Lemmas.SpecAttr
/-!
  The monad `Spec.M` and the reference evaluator, as rewrite rules: what `>>=`, `tryCatchS` do with a result that is
  known, and one equation (one unit of fuel, one constructor) for each syntactic form of `eval` / `evalStmt` /
  `evalSeq` / … that the proofs meet.  A closure body is run inside a proof by rewriting with these at the level of `M` -
  hypotheses about sub-evaluations enter as `bind_ok h` / `bind_error h` - so that the goal never grows a case tree over
  intermediate stores: `simp only [spec_eq, spec_env, String.reduceBEq, ↓reduceIte, bind_ok h, …]`, where `spec_eq` is
  the set of the equations and monad rules below and `spec_env` what it takes to look a literal name up in a literal
  environment.  Three things stand under `namespace Ssl.Fold` although they speak of `Spec` alone, because the
  folding proof named them first: `Fold.isDecl` / `Fold.evalStmt_notDecl` (the catch-all arm of `evalStmt`) and
  `Fold.Post` (what a computation guarantees about the values it yields).
-/
namespace Ssl.Spec

theorem bindM_def {α β} (m : M α) (k : α → M β) (σ : St) :
    (m >>= k) σ = (match m σ with
      | (.ok a, σ') => k a σ'
      | (.error e, σ') => (.error e, σ')) := rfl

theorem bind_ok {α β} {m : M α} {k : α → M β} {σ σ1 : St} {a : α} (h : m σ = (.ok a, σ1)) :
    (m >>= k) σ = k a σ1 := by
  show (match m σ with
    | (.ok a, s') => k a s'
    | (.error e, s') => (.error e, s')) = _
  rw [h]

theorem bind_error {α β} {m : M α} {k : α → M β} {σ σ1 : St} {e : Sig} (h : m σ = (.error e, σ1)) :
    (m >>= k) σ = (.error e, σ1) := by
  show (match m σ with
    | (.ok a, s') => k a s'
    | (.error e, s') => (.error e, s')) = _
  rw [h]

theorem bind_eq_ok {α β} {m : M α} {k : α → M β} {σ σ' : St} {b : β} (h : (m >>= k) σ = (.ok b, σ')) :
    ∃ a σ1, m σ = (.ok a, σ1) ∧ k a σ1 = (.ok b, σ') := by
  cases hm : m σ with
  | mk r σ1 =>
    cases r with
    | ok a => exact ⟨a, σ1, rfl, by rw [bind_ok hm] at h; exact h⟩
    | error e => rw [bind_error hm] at h; cases h

theorem pure_bind {α β} (a : α) (k : α → M β) : (pure a >>= k) = k a := rfl
theorem throwS_bind {α β} (e : Sig) (k : α → M β) : (throwS e >>= k) = throwS e := rfl
theorem liftE_ok_bind {α β} (a : α) (k : α → M β) : (liftE (.ok a) >>= k) = k a := rfl

-- in the simp set in place of `asBool` / `preScalar`: unfolded, they leave a matcher whose catch-all equation simp tries,
-- and fails to discharge, every time it passes
theorem asBool_bool (b : Bool) : asBool (.bool b) = .ok b := rfl
theorem preScalar_not_bool (b : Bool) : preScalar .not (.bool b) = .ok (.bool (!b)) := rfl

theorem bool_bind {α} (b : Bool) (k : Bool → M α) :
    (do let x ← (pure (.bool b) : M Val); let x ← liftE (asBool x); k x) = k b := rfl

theorem bind_assoc {α β γ} (m : M α) (k : α → M β) (h : β → M γ) :
    ((m >>= k) >>= h) = m >>= fun a => k a >>= h := by
  funext σ
  show (match (match m σ with
      | (.ok a, s') => k a s'
      | (.error e, s') => (.error e, s')) with
    | (.ok b, s') => h b s'
    | (.error e, s') => (.error e, s')) =
    (match m σ with
      | (.ok a, s') => (k a >>= h) s'
      | (.error e, s') => (.error e, s'))
  cases m σ with
  | mk r s => cases r <;> rfl

theorem tryCatchS_ok {α} {m : M α} {h : Sig → M α} {σ σ1 : St} {a : α} (hm : m σ = (.ok a, σ1)) :
    tryCatchS m h σ = (.ok a, σ1) := by simp only [tryCatchS, hm]

theorem tryCatchS_error {α} {m : M α} {h : Sig → M α} {σ σ1 : St} {e : Sig} (hm : m σ = (.error e, σ1)) :
    tryCatchS m h σ = h e σ1 := by simp only [tryCatchS, hm]

theorem bind_eq_error {α β} {m : M α} {k : α → M β} {σ σ' : St} {e : Sig} (h : (m >>= k) σ = (.error e, σ')) :
    m σ = (.error e, σ') ∨ ∃ a σ1, m σ = (.ok a, σ1) ∧ k a σ1 = (.error e, σ') := by
  cases hm : m σ with
  | mk r σ1 =>
    cases r with
    | ok a => exact .inr ⟨a, σ1, rfl, by rw [bind_ok hm] at h; exact h⟩
    | error e0 => rw [bind_error hm] at h; cases h; exact .inl rfl

theorem tryCatchS_eq_error {α} {m : M α} {h : Sig → M α} {σ σ' : St} {e : Sig} (he : tryCatchS m h σ = (.error e, σ')) :
    ∃ e0 σ1, m σ = (.error e0, σ1) ∧ h e0 σ1 = (.error e, σ') := by
  cases hm : m σ with
  | mk r σ1 =>
    cases r with
    | ok a => rw [tryCatchS_ok hm] at he; cases he
    | error e0 => exact ⟨e0, σ1, rfl, by rw [tryCatchS_error hm] at he; exact he⟩

/-! the signals that are not control signals: what a call's and a loop body's handler let through -/

theorem wrong_notCtl (w : String) : Sig.wrong w ≠ .brk ∧ Sig.wrong w ≠ .cont ∧ ∀ v, Sig.wrong w ≠ .ret v := ⟨nofun, nofun, nofun⟩
theorem err_notCtl (e : ExecErr) : Sig.err e ≠ .brk ∧ Sig.err e ≠ .cont ∧ ∀ v, Sig.err e ≠ .ret v := ⟨nofun, nofun, nofun⟩
theorem fuel_notCtl : Sig.fuel ≠ .brk ∧ Sig.fuel ≠ .cont ∧ ∀ v, Sig.fuel ≠ .ret v := ⟨nofun, nofun, nofun⟩

theorem callFn_error {f : Nat} {fv : Val} {args : List Val} {σ σ' : St} {s : Sig}
    (h : callFn f fv args σ = (.error s, σ')) : s ≠ .brk ∧ s ≠ .cont ∧ ∀ v, s ≠ .ret v := by
  cases f with
  | zero => cases h; exact fuel_notCtl
  | succ f =>
    simp only [callFn] at h
    split at h
    · split at h
      · unfold nativeCall at h
        split at h <;> first | (cases h; done) | (cases h; exact wrong_notCtl _)
      · obtain ⟨e0, σ1, _, h⟩ := tryCatchS_eq_error h
        cases e0 <;> cases h <;> first | exact wrong_notCtl _ | exact err_notCtl _ | exact fuel_notCtl
    · cases h; exact wrong_notCtl _

theorem bodyOnce_error {f : Nat} {env : Env} {b : Expr} {σ σ' : St} {s : Sig}
    (h : bodyOnce f env b σ = (.error s, σ')) : s ≠ .brk ∧ s ≠ .cont := by
  cases f with
  | zero => cases h; exact ⟨nofun, nofun⟩
  | succ f =>
    simp only [bodyOnce] at h
    obtain ⟨e0, σ1, _, h⟩ := tryCatchS_eq_error h
    cases e0 <;> first | (cases h; done) | (cases h; exact ⟨nofun, nofun⟩)

attribute [spec_eq] pure_bind throwS_bind liftE_ok_bind bind_assoc

theorem lookup_insert_same (env : Env) (x : String) (v : Val) :
    (env.insert x v).lookup x = some v := by
  cases env <;> simp [Env.insert, Env.lookup, frameLookup]

theorem lookup_insert_other (env : Env) (x y : String) (v : Val) (h : (x == y) = false) :
    (env.insert x v).lookup y = env.lookup y := by
  cases env <;> simp [Env.insert, Env.lookup, frameLookup, h]

theorem lookup_inner_frame (env : Env) (x : String) (v : Val) :
    Env.lookup ([(x, v)] :: env) x = some v := by
  simp [Env.lookup, frameLookup]

theorem lookup_inner_frame_other (env : Env) (x y : String) (v : Val) (h : (x == y) = false) :
    Env.lookup ([(x, v)] :: env) y = env.lookup y := by
  simp [Env.lookup, frameLookup, h]

theorem insert_cons (fr : Frame) (rest : Env) (x : String) (v : Val) : Env.insert (fr :: rest) x v = ((x, v) :: fr) :: rest :=
  rfl

/-- destructuring into one more name `x`, whether or not there is a value left for it, changes no other name.  Stated
    with the test inside, not as a hypothesis: discharging `("value" == "con") = false` makes the elaborator compare
    the two string literals by unfolding `String.decEq`, which costs more than the rest of a closure body's run -/
theorem lookup_destruct (env : Env) (x y : String) (vs : List Val) :
    Env.lookup (List.foldl (fun en (x, w) => en.insert x w) env (List.zip [x] vs)) y =
      if x == y then (match vs with
        | v :: _ => some v
        | [] => env.lookup y)
      else env.lookup y := by
  cases vs with
  | nil => split <;> rfl
  | cons v vs =>
    cases h : x == y
    · exact lookup_insert_other env x y v h
    · rw [eq_of_beq h]; exact lookup_insert_same env y v

theorem frameLookup_append (x : String) (a b : Frame) :
    frameLookup x (a ++ b) = (match frameLookup x a with
      | some v => some v
      | none => frameLookup x b) := by
  induction a with
  | nil => simp [frameLookup]
  | cons p a ih =>
    obtain ⟨k, v⟩ := p
    simp only [List.cons_append, frameLookup]
    split <;> simp_all

theorem lookup_single (fr : Frame) (x : String) : Env.lookup [fr] x = frameLookup x fr := by
  simp only [Env.lookup]
  cases frameLookup x fr <;> rfl

theorem lookup_two_frames (fr1 fr2 : Frame) (y : String) :
    Env.lookup [fr1, fr2] y = frameLookup y (fr1 ++ fr2) := by
  simp only [Env.lookup, frameLookup_append]
  cases frameLookup y fr1 <;> cases frameLookup y fr2 <;> simp

attribute [spec_env] Env.lookup frameLookup insert_cons lookup_destruct List.zip_cons_cons List.zip_nil_left
  List.foldl_cons List.foldl_nil Bool.not_true Bool.not_false Bool.false_eq_true

section
variable (f : Nat) (env : Env)

theorem eval_litBool (b : Bool) : eval (f + 1) env (.litBool b) = pure (.bool b) := by simp only [eval]

theorem eval_litInt (i : Int) : eval (f + 1) env (.litInt i) = pure (.int (BitVec.ofInt 64 i)) := by simp only [eval]

theorem eval_var (x : String) : eval (f + 1) env (.var x) =
    (match env.lookup x with
     | some v => pure v
     | none => wrong s!"unbound variable {x}") := by simp only [eval]; rfl

theorem eval_call (g : Expr) (args : List Expr) : eval (f + 1) env (.call g args) =
    (do let fv ← eval f env g
        let vs ← evalList f env args
        callFn f fv vs) := by simp only [eval]

theorem eval_tuple (es : List Expr) : eval (f + 1) env (.tuple es) =
    (do let vs ← evalList f env es
        pure (.tup vs)) := by simp only [eval]

theorem eval_ret (e : Expr) : eval (f + 1) env (.ret (some e)) =
    (do let v ← eval f env e
        throwS (.ret v)) := by simp only [eval]

theorem eval_ifElse (c t : Expr) (e : Option Expr) : eval (f + 1) env (.ifElse c t e) =
    (do let c ← eval f env c
        let c ← liftE (asBool c)
        if c then eval f env t
        else match e with
          | some e => eval f env e
          | none => pure .unit) := by simp only [eval]; rfl

theorem eval_and (a b : Expr) : eval (f + 1) env (.and a b) =
    (do let x ← eval f env a
        let x ← liftE (asBool x)
        if !x then pure (.bool false) else eval f env b) := by simp only [eval]

theorem eval_or (a b : Expr) : eval (f + 1) env (.or a b) =
    (do let x ← eval f env a
        let x ← liftE (asBool x)
        if x then pure (.bool true) else eval f env b) := by simp only [eval]

theorem eval_deref (a : Expr) : eval (f + 1) env (.pre .deref a) =
    (do let v ← eval f env a
        match v with
          | .cell loc _ => readCell loc
          | _ => wrong "indirection of a non-cell") := by simp only [eval]; rfl

/-- the binary operators that build an iterator or run one; every other operator is a function of the two values -/
def isIterOp : BinOp → Bool
  | .map | .filter | .partition => true
  | _ => false

/-- the catch-all arm `.bin op` of `eval`, stated once: no proof has to split over all operators to reach it -/
theorem eval_bin_scalar (op : BinOp) (a b : Expr) (h : isIterOp op = false) : eval (f + 1) env (.bin op a b) =
    (do let x ← eval f env a
        let y ← eval f env b
        liftE (binScalar op x y)) := by
  cases op <;> first | (cases h; done) | rfl

theorem eval_pre_scalar (op : PreOp) (a : Expr) (h : op ≠ .deref) : eval (f + 1) env (.pre op a) =
    (do let v ← eval f env a
        liftE (preScalar op v)) := by
  cases op <;> first | (exact absurd rfl h) | rfl

theorem eval_lt (a b : Expr) : eval (f + 1) env (.bin .lt a b) =
    (do let x ← eval f env a
        let y ← eval f env b
        liftE (binScalar .lt x y)) :=
  eval_bin_scalar f env .lt a b rfl

theorem eval_not (c : Expr) : eval (f + 1) env (.pre .not c) =
    (do let v ← eval f env c
        liftE (preScalar .not v)) :=
  eval_pre_scalar f env .not c (by decide)

theorem eval_at (a b : Expr) : eval (f + 1) env (.at a b) =
    (do let x ← eval f env a
        let y ← eval f env b
        liftE (atVal x y)) := by simp only [eval]

theorem eval_assign (op : AssignOp) (t v : Expr) : eval (f + 1) env (.assign op t v) =
    (do let c ← eval f env t
        let v ← eval f env v
        match c with
        | .cell loc _ =>
          match assignBase op with
          | none => do writeCell loc v; pure v
          | some bop => do
            let cur ← readCell loc
            let r ← liftE (binScalar bop cur v)
            writeCell loc r
            pure r
        | _ => wrong "assignment to a non-cell") := by simp only [eval]; rfl

theorem eval_ifSet (x : String) (t : Ty) (e b : Expr) (els : Option Expr) :
    eval (f + 1) env (.ifSet x t e b els) =
    (do let v ← eval f env e
        if Ty.sub v.asType t then eval f ([(x, v)] :: env) b
        else match els with
          | some e => eval f env e
          | none => pure .unit) := by simp only [eval]; rfl

theorem eval_block (b : List Expr) : eval (f + 1) env (.block b) =
    (do let r ← evalSeq f ([] :: env) b
        pure r.1) := by simp only [eval]

theorem eval_loop (b : Expr) : eval (f + 1) env (.loop b) = loopGo f env b := by simp only [eval]

theorem evalList_nil : evalList (f + 1) env [] = pure [] := by simp only [evalList]

theorem evalList_cons (e : Expr) (es : List Expr) : evalList (f + 1) env (e :: es) =
    (do let v ← eval f env e
        let vs ← evalList f env es
        pure (v :: vs)) := by simp only [evalList]

end

end Ssl.Spec

namespace Ssl.Fold
open Ssl Ssl.Spec

def isDecl : Expr → Bool
  | .set .. | .destruct .. | .fndecl .. => true
  | _ => false

/-- the catch-all arm of `evalStmt`: a statement that declares nothing is evaluated as an expression -/
theorem evalStmt_notDecl (f : Nat) (env : Env) (s : Expr) (h : isDecl s = false) :
    evalStmt (f + 1) env s = (do let v ← eval f env s; pure (v, env)) := by
  cases s <;> first | rfl | cases h

end Ssl.Fold

namespace Ssl.Spec

section
variable (f : Nat) (env : Env)

theorem evalStmtValue_succ (e : Expr) : evalStmtValue (f + 1) env e = eval f env e := by simp only [evalStmtValue]

theorem evalStmt_set (x : String) (e : Expr) : evalStmt (f + 1) env (.set x e) =
    (do let v ← evalStmtValue f env e
        pure (v, env.insert x v)) := by simp only [evalStmt]

theorem evalStmt_destruct (xs : List String) (e : Expr) : evalStmt (f + 1) env (.destruct xs e) =
    (do let v ← evalStmtValue f env e
        match v with
        | .tup vs => pure (v, (List.zip xs vs).foldl (fun en (x, w) => en.insert x w) env)
        | _ => wrong "destructuring a non-tuple") := by simp only [evalStmt]; rfl

/-! a statement that is no declaration is evaluated as an expression (the forms the helper closures use) -/

theorem evalStmt_ifElse (c t : Expr) (e : Option Expr) : evalStmt (f + 1) env (.ifElse c t e) =
    (do let v ← eval f env (.ifElse c t e); pure (v, env)) :=
  Fold.evalStmt_notDecl f env _ rfl

theorem evalStmt_ret (e : Option Expr) : evalStmt (f + 1) env (.ret e) =
    (do let v ← eval f env (.ret e); pure (v, env)) :=
  Fold.evalStmt_notDecl f env _ rfl

theorem evalStmt_loop (b : Expr) : evalStmt (f + 1) env (.loop b) =
    (do let v ← eval f env (.loop b); pure (v, env)) :=
  Fold.evalStmt_notDecl f env _ rfl

theorem evalStmt_ifSet (x : String) (t : Ty) (e b : Expr) (els : Option Expr) :
    evalStmt (f + 1) env (.ifSet x t e b els) =
    (do let v ← eval f env (.ifSet x t e b els); pure (v, env)) :=
  Fold.evalStmt_notDecl f env _ rfl

theorem evalStmt_assign (op : AssignOp) (a b : Expr) : evalStmt (f + 1) env (.assign op a b) =
    (do let v ← eval f env (.assign op a b); pure (v, env)) :=
  Fold.evalStmt_notDecl f env _ rfl

theorem evalSeq_nil : evalSeq (f + 1) env [] = pure (.unit, env) := by simp only [evalSeq]

theorem evalSeq_last (s : Expr) : evalSeq (f + 1) env [s] = evalStmt f env s := by simp only [evalSeq]

theorem evalSeq_cons (s s2 : Expr) (rest : List Expr) : evalSeq (f + 1) env (s :: s2 :: rest) =
    (do let r ← evalStmt f env s
        evalSeq f r.2 (s2 :: rest)) := by simp only [evalSeq]

theorem evalSeq_cons_ne (s : Expr) (rest : List Expr) (h : rest ≠ []) : evalSeq (f + 1) env (s :: rest) =
    (do let r ← evalStmt f env s
        evalSeq f r.2 rest) := by
  cases rest with
  | nil => exact absurd rfl h
  | cons s2 rest => exact evalSeq_cons f env s s2 rest

/-! the step of each remaining function of the evaluator.  Stated here also so that the unfolding lemma Lean derives for
    a function the first time a module rewrites with it (about a million heartbeats each) is derived in this module,
    which every other one imports, and not once in each module that needs it: hence by `simp only [f]`, not by `rfl` -/

theorem evalOpt_some (e : Expr) : evalOpt (f + 1) env (some e) =
    (do let v ← eval f env e
        pure (some v)) := by simp only [evalOpt]

theorem evalFields_cons (k : String) (e : Expr) (es : List (String × Expr)) : evalFields (f + 1) env ((k, e) :: es) =
    (do let v ← eval f env e
        let vs ← evalFields f env es
        pure ((k, v) :: vs)) := by simp only [evalFields]

theorem candGo_cons (v : Val) (c : Expr) (cs : List Expr) : candGo (f + 1) env v (c :: cs) =
    (do let w ← eval f env c
        if veq w v then pure true else candGo f env v cs) := by simp only [candGo]

theorem evalArms_val (v : Val) (cands : List Expr) (body : Expr) (rest : List Arm) :
    evalArms (f + 1) env v (.val cands body :: rest) =
    (do let hit ← candGo f env v cands
        if hit then eval f env body else evalArms f env v rest) := by simp only [evalArms]

theorem whileGo_succ (c body : Expr) : whileGo (f + 1) env c body =
    (do let cv ← eval f env c
        let cv ← liftE (asBool cv)
        if cv then do
          let go ← bodyOnce f env body
          if go then whileGo f env c body else pure .unit
        else pure .unit) := by simp only [whileGo]

theorem whileSetGo_succ (x : String) (ty : Ty) (e body : Expr) : whileSetGo (f + 1) env x ty e body =
    (do let v ← eval f env e
        if Ty.sub v.asType ty then do
          let go ← bodyOnce f ([(x, v)] :: env) body
          if go then whileSetGo f env x ty e body else pure .unit
        else pure .unit) := by simp only [whileSetGo]

theorem forGo_succ (x : String) (it : Val) (body : Expr) : forGo (f + 1) env x it body =
    (do let r ← callFn f it []
        match r with
        | .tup [.bool c, v] =>
          if c then do
            let go ← bodyOnce f ([(x, v), ("$con", .bool c)] :: env) body
            if go then forGo f env x it body else pure .unit
          else pure .unit
        | _ => wrong "for over something that is not an iterator") := by simp only [forGo]; rfl

theorem collectGo_succ (it : Val) (acc : List Val) : collectGo (f + 1) it acc =
    (do let r ← pull f it
        match r with
        | some x => collectGo f it (x :: acc)
        | none => pure acc.reverse) := by simp only [collectGo]; rfl

theorem boolGo_succ (it : Val) (unit : Bool) : boolGo (f + 1) it unit =
    (do let x ← pull f it
        match x with
        | some (.bool b) => if b == unit then boolGo f it unit else pure (.bool b)
        | some _ => wrong "bool reducer on a non-bool element"
        | none => pure (.bool unit)) := by simp only [boolGo]; rfl

theorem reduceGo_succ (it acc : Val) (g : BinOp ⊕ Val) : reduceGo (f + 1) it acc g =
    (do let x ← pull f it
        match x with
        | some x => do
          let acc' ← (match g with
            | .inl op => liftE (binScalar op acc x)
            | .inr fv => callFn f fv [acc, x])
          reduceGo f it acc' g
        | none => pure acc) := by simp only [reduceGo]; rfl

theorem partitionGo_succ (it p : Val) (l r : List Val) : partitionGo (f + 1) it p l r =
    (do let x ← pull f it
        match x with
        | some x => do
          let c ← callFn f p [x]
          match c with
          | .bool true => partitionGo f it p (x :: l) r
          | _ => partitionGo f it p l (x :: r)
        | none => pure (l.reverse, r.reverse)) := by simp only [partitionGo]; rfl

-- Not in the set, for `rw` only: `eval_block` (a run names the blocks it enters, so the branch of an `if` it does not
-- take - simp looks at both before the test is decided - stays closed); the equations with a side condition
-- (`eval_bin_scalar`, `eval_pre_scalar`, `evalSeq_cons_ne`, `Fold.evalStmt_notDecl`); `evalSeq_nil`; the
-- unfoldings of the loops and of `pull` (`bodyOnce_succ`, `loopGo_succ`, `pull_succ`).
attribute [spec_eq] eval_litBool eval_litInt eval_var eval_call eval_tuple eval_ret eval_ifElse eval_and eval_or eval_not
  eval_deref eval_lt eval_at eval_assign eval_ifSet eval_loop evalList_nil evalList_cons evalStmtValue_succ
  evalStmt_set evalStmt_destruct evalStmt_ifElse evalStmt_ret evalStmt_loop evalStmt_ifSet evalStmt_assign evalSeq_last
  evalSeq_cons E_true E_false asBool_bool preScalar_not_bool

theorem bodyOnce_succ (b : Expr) : bodyOnce (f + 1) env b =
    tryCatchS (do let _ ← eval f env b; pure true) fun s =>
      match s with
      | .brk => pure false
      | .cont => pure true
      | s => throwS s := by simp only [bodyOnce]; rfl

theorem loopGo_succ (b : Expr) : loopGo (f + 1) env b =
    (do let go ← bodyOnce f env b
        if go then loopGo f env b else pure .unit) := by simp only [loopGo]

theorem loopGo_again {b : Expr} {σ σ1 : St} (h : bodyOnce f env b σ = (.ok true, σ1)) :
    loopGo (f + 1) env b σ = loopGo f env b σ1 := by rw [loopGo_succ, bind_ok h]; rfl

theorem loopGo_error {b : Expr} {σ σ1 : St} {e : Sig} (h : bodyOnce f env b σ = (.error e, σ1)) :
    loopGo (f + 1) env b σ = (.error e, σ1) := by rw [loopGo_succ, bind_error h]

/-- what one run of a loop body that is a block makes of the result of its statement list -/
def blockOutcome (r : Except Sig (Val × Env) × St) : Except Sig Bool × St :=
  match r with
  | (.ok _, σ) => (.ok true, σ)
  | (.error .brk, σ) => (.ok false, σ)
  | (.error .cont, σ) => (.ok true, σ)
  | (.error s, σ) => (.error s, σ)

/-- stated at a store, so that a run of the statement list (`bind_ok h`, which needs the store) can be carried out
    under it -/
theorem bodyOnce_block (ss : List Expr) (σ : St) :
    bodyOnce (f + 2) env (.block ss) σ = blockOutcome (evalSeq f ([] :: env) ss σ) := by
  rw [bodyOnce_succ, eval_block]
  cases h : evalSeq f ([] :: env) ss σ with
  | mk r σ' =>
    cases r with
    | ok a => exact tryCatchS_ok (bind_ok (bind_ok h))
    | error s => rw [tryCatchS_error (bind_error (bind_error h))]; cases s <;> rfl

end

theorem readCell_ok {σ : St} {loc : Nat} {v : Val} (h : σ.cells[loc]? = some v) : readCell loc σ = (.ok v, σ) := by
  simp only [readCell, h]

theorem writeCell_ok {σ : St} {loc : Nat} (v : Val) (h : loc < σ.cells.size) :
    writeCell loc v σ = (.ok (), { σ with cells := σ.cells.set! loc v }) := by
  simp only [writeCell, h, ↓reduceIte]

/-- what a call does with the signal its body ends in -/
def retHandler (s : Sig) : M Val :=
  match s with
  | .ret v => pure v
  | .brk => wrong "break outside of loop"
  | .cont => wrong "continue outside of loop"
  | s => throwS s

theorem callFn_closure (f id : Nat) (ps : List (String × Ty)) (r : Ty) (s : Expr) (body : List Expr) (cap : Frame)
    (self : Option String) (args : List Val) (hn : ∀ name, s ≠ .native name) :
    callFn (f + 1) (.fn id ps r (s :: body) cap self) args =
      tryCatchS (do
        let _ ← evalSeq f (calleeEnv (.fn id ps r (s :: body) cap self) ps cap self args) (s :: body)
        pure Val.unit) retHandler := by
  simp only [callFn]
  split
  · next _ name heq => exact absurd (by injection heq) (hn name)
  · rfl

theorem callFn_of_ret {f id : Nat} {ps : List (String × Ty)} {r : Ty} {s : Expr} {body : List Expr} {cap : Frame}
    {self : Option String} {args : List Val} {σ σ1 : St} {v : Val} (hn : ∀ name, s ≠ .native name)
    (h : evalSeq f (calleeEnv (.fn id ps r (s :: body) cap self) ps cap self args) (s :: body) σ = (.error (.ret v), σ1)) :
    callFn (f + 1) (.fn id ps r (s :: body) cap self) args σ = (.ok v, σ1) := by
  rw [callFn_closure f id ps r s body cap self args hn, tryCatchS_error (bind_error h)]; rfl

theorem callFn0_of_ret {f id : Nat} {r : Ty} {s : Expr} {body : List Expr} {cap : Frame} {σ σ1 : St} {v : Val}
    (hn : ∀ name, s ≠ .native name) (h : evalSeq f [[], cap] (s :: body) σ = (.error (.ret v), σ1)) :
    callFn (f + 1) (.fn id [] r (s :: body) cap none) [] σ = (.ok v, σ1) :=
  callFn_of_ret hn h

/-- `F + 4`: one unit of fuel each for the call, the statement list, the statement and the `loop` expression -/
theorem callFn_loop_ret {F id : Nat} {r : Ty} {b s2 : Expr} {cap : Frame} {σ σ' : St} {t : Val}
    (h : loopGo F [[], cap] b σ = (.error (.ret t), σ')) :
    callFn (F + 4) (.fn id [] r [.loop b, s2] cap none) [] σ = (.ok t, σ') := by
  refine callFn0_of_ret (by intro n h; cases h) ?_
  simp only [spec_eq, bind_error h]

theorem pull_succ (f : Nat) (it : Val) : pull (f + 1) it =
    (do let r ← callFn f it []
        match r with
        | .tup [.bool true, x] => pure (some x)
        | .tup (.bool false :: _) => pure none
        | _ => wrong "iterator returned something that is not (bool, value)") := by simp only [pull]; rfl

theorem atVal_mem (t : Ty) (es : List Val) (i : I64) (x : Val) (h : atVal (.arr t es) (.int i) = .ok x) : x ∈ es := by
  simp only [atVal] at h
  split at h
  · split at h
    · rename_i v hv; cases h; exact List.mem_of_getElem? hv
    · simp at h
  · simp at h

theorem atVal_sig (x : Val) (k : I64) (s : Sig) (hx : (∃ t xs, x = .arr t xs) ∨ (∃ str, x = .str str))
    (h : atVal x (.int k) = .error s) : s = .err .IndexOutOfBounds := by
  rcases hx with ⟨t, xs, rfl⟩ | ⟨str, rfl⟩
  · simp only [atVal] at h
    split at h
    · split at h
      · cases h
      · cases h; rfl
    · cases h; rfl
  · simp only [atVal] at h
    split at h
    · split at h
      · cases h
      · cases h; rfl
    · cases h; rfl

theorem slice_mem {α} (xs : List α) (a b c : Option Int) : ∀ x ∈ Seq.slice xs a b c, x ∈ xs := by
  intro x hx
  simp only [Seq.slice, List.mem_filterMap] at hx
  obtain ⟨i, _, hi⟩ := hx
  exact List.mem_of_getElem? hi

/-- what an operator's own function answers when it fails: a runtime error of the language, or `wrong` -/
def SigOk (r : Except Sig Val) : Prop := ∀ s, r = .error s → (∃ e, s = .err e) ∨ (∃ w, s = .wrong w)

theorem SigOk.ofScalar (r : Except ExecErr Scalar) : SigOk (ofScalar r) := by
  intro s h
  cases r with
  | error e => exact .inl ⟨e, (Except.error.inj h).symm⟩
  | ok sc => cases sc <;> cases h

theorem SigOk.ok (v : Val) : SigOk (.ok v) := nofun

theorem SigOk.wrong (w : String) : SigOk (.error (.wrong w)) := fun _ h => .inr ⟨w, (Except.error.inj h).symm⟩

/-- every arm of `binScalar` is `ofScalar ..`, a value, or the catch-all `wrong` -/
theorem binScalar_sigOk (op : BinOp) (x y : Val) : SigOk (binScalar op x y) := by
  unfold binScalar
  split <;> first | exact .ofScalar _ | exact .ok _ | exact .wrong _

theorem binScalar_sig (op : BinOp) (x y : Val) (s : Sig) (h : binScalar op x y = .error s) :
    (∃ e, s = .err e) ∨ (∃ w, s = .wrong w) :=
  binScalar_sigOk op x y s h

end Ssl.Spec

namespace Ssl.Fold
open Ssl Ssl.Spec

/-- what a computation guarantees about the values it yields; nothing is said of its errors -/
def Post {α} (m : M α) (P : α → Prop) : Prop := ∀ σ a σ', m σ = (.ok a, σ') → P a

theorem Post.bind2 {α β} {m : M α} {k : α → M β} {Q : α → Prop} {P : β → Prop} (hm : Post m Q)
    (hk : ∀ a, Q a → Post (k a) P) : Post (m >>= k) P := fun σ b σ' hb =>
  let ⟨a, σ1, h1, h2⟩ := bind_eq_ok hb
  hk a (hm σ a σ1 h1) σ1 b σ' h2

theorem Post.bind {α β} {m : M α} {k : α → M β} {P : β → Prop} (hk : ∀ a, Post (k a) P) : Post (m >>= k) P :=
  Post.bind2 (Q := fun _ => True) (fun _ _ _ _ => trivial) (fun a _ => hk a)

theorem Post.pure {α} {v : α} {P : α → Prop} (hv : P v) : Post (pure v : M α) P := by
  intro σ a σ' h
  cases h; exact hv

theorem Post.liftE {α} {P : α → Prop} {r : Except Sig α} (h : ∀ a, r = .ok a → P a) : Post (liftE r) P :=
  fun _ a _ e => h a (by cases e; rfl)

theorem Post.throwS {α} {P : α → Prop} (s : Sig) : Post (throwS s : M α) P := fun _ _ _ e => by cases e

end Ssl.Fold
