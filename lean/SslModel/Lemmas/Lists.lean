/-!
  Lists, with nothing of SimpleSL in them: what a test on a list, on two lists position by position,
  or on a field list says of the members when it is written as a recursive function (as the models'
  tests are); the counting argument by which an equality that looks from one side only (`==` on
  unions and on struct fields) is symmetric; and the `takeWhile` / `dropWhile` split of a run followed
  by a stopper, which the two lexers use.
-/
namespace Ssl

/-- the model's tests on lists are written out as recursive functions; one with these two equations
    (`wfL`, `subL`, `allHasTy`, …) says that a test holds of every member -/
theorem all_of_eqns {α : Type} {f : List α → Bool} {p : α → Bool} (h0 : f [] = true)
    (hc : ∀ a as, f (a :: as) = (p a && f as)) (l : List α) : f l = true ↔ ∀ a ∈ l, p a = true := by
  induction l with
  | nil => simp [h0]
  | cons a as ih => rw [hc, Bool.and_eq_true, ih]; simp

/-- the same for a test of some member (`memL`, `hasTyAny`) -/
theorem any_of_eqns {α : Type} {f : List α → Bool} {p : α → Bool} (h0 : f [] = false)
    (hc : ∀ a as, f (a :: as) = (p a || f as)) (l : List α) : f l = true ↔ ∃ a ∈ l, p a = true := by
  induction l with
  | nil => simp [h0]
  | cons a as ih => rw [hc, Bool.or_eq_true, ih]; simp

/-- `r` holds between the members of two lists of the same length, position by position: what
    `eqvL`, `matchesL`, `hasTyL` test -/
def Pointwise {α β : Type} (r : α → β → Prop) : List α → List β → Prop
  | [], [] => True
  | a :: as, b :: bs => r a b ∧ Pointwise r as bs
  | _, _ => False

theorem pointwise_of_eqns {α β : Type} {f : List α → List β → Bool} {r : α → β → Bool}
    (h00 : f [] [] = true) (hcc : ∀ a b as bs, f (a :: as) (b :: bs) = (r a b && f as bs))
    (h0c : ∀ b bs, f [] (b :: bs) = false) (hc0 : ∀ a as, f (a :: as) [] = false) :
    ∀ as bs, f as bs = true ↔ Pointwise (fun a b => r a b = true) as bs
  | [], [] => by simp [h00, Pointwise]
  | [], b :: bs => by simp [h0c, Pointwise]
  | a :: as, [] => by simp [hc0, Pointwise]
  | a :: as, b :: bs => by
    rw [hcc, Bool.and_eq_true, pointwise_of_eqns h00 hcc h0c hc0 as bs]; rfl

namespace Pointwise
variable {α β γ : Type}

theorem length_eq {r : α → β → Prop} : ∀ {as bs}, Pointwise r as bs → as.length = bs.length
  | [], [], _ => rfl
  | _ :: _, _ :: _, h => congrArg (· + 1) (length_eq h.2)

theorem refl_of {r : α → α → Prop} : ∀ {as : List α}, (∀ a ∈ as, r a a) → Pointwise r as as
  | [], _ => trivial
  | a :: _, h => ⟨h a List.mem_cons_self, refl_of fun x hx => h x (List.mem_cons_of_mem _ hx)⟩

theorem flip_of {r : α → β → Prop} {r' : β → α → Prop} : ∀ {as bs}, (∀ a ∈ as, ∀ b ∈ bs, r a b → r' b a) →
    Pointwise r as bs → Pointwise r' bs as
  | [], [], _, _ => trivial
  | a :: _, b :: _, h, p =>
    ⟨h a List.mem_cons_self b List.mem_cons_self p.1,
      flip_of (fun x hx y hy => h x (List.mem_cons_of_mem _ hx) y (List.mem_cons_of_mem _ hy)) p.2⟩

theorem imp_of {r r' : α → β → Prop} {as : List α} {bs : List β} (h : ∀ a ∈ as, ∀ b ∈ bs, r a b → r' a b)
    (p : Pointwise r as bs) : Pointwise r' as bs :=
  flip_of (r := fun b a => r' a b) (fun _ _ _ _ e => e) (flip_of h p)

theorem comp_of {r1 : α → β → Prop} {r2 : β → γ → Prop} {r3 : α → γ → Prop} : ∀ {as bs cs},
    (∀ a ∈ as, ∀ b ∈ bs, ∀ c ∈ cs, r1 a b → r2 b c → r3 a c) →
    Pointwise r1 as bs → Pointwise r2 bs cs → Pointwise r3 as cs
  | [], [], [], _, _, _ => trivial
  | a :: _, b :: _, c :: _, h, p, q =>
    ⟨h a List.mem_cons_self b List.mem_cons_self c List.mem_cons_self p.1 q.1,
      comp_of (fun x hx y hy z hz =>
        h x (List.mem_cons_of_mem _ hx) y (List.mem_cons_of_mem _ hy) z (List.mem_cons_of_mem _ hz)) p.2 q.2⟩

theorem get {r : α → β → Prop} : ∀ {as bs} (n : Nat) {a b}, Pointwise r as bs → as[n]? = some a → bs[n]? = some b → r a b
  | _ :: _, _ :: _, 0, _, _, p, ha, hb => by cases ha; cases hb; exact p.1
  | _ :: _, _ :: _, n + 1, _, _, p, ha, hb => get n p.2 ha hb

theorem exists_of_mem_left {r : α → β → Prop} : ∀ {as bs}, Pointwise r as bs → ∀ a ∈ as, ∃ b ∈ bs, r a b
  | _ :: _, y :: _, p, a, ha => (List.mem_cons.mp ha).elim (fun e => ⟨y, List.mem_cons_self, e ▸ p.1⟩)
      fun ha => let ⟨b, hb, h⟩ := exists_of_mem_left p.2 a ha; ⟨b, List.mem_cons_of_mem _ hb, h⟩

theorem exists_of_mem_right {r : α → β → Prop} {as : List α} {bs : List β} (h : Pointwise r as bs) :
    ∀ b ∈ bs, ∃ a ∈ as, r a b :=
  exists_of_mem_left (flip_of (r' := fun b a => r a b) (fun _ _ _ _ e => e) h)

/-! what `++`, `reverse` and `map` do to such a relation -/
section
variable {r : α → β → Prop}

theorem append : ∀ {as : List α} {bs : List β} {cs : List α} {ds : List β},
    Pointwise r as bs → Pointwise r cs ds → Pointwise r (as ++ cs) (bs ++ ds)
  | [], [], _, _, _, h => h
  | _ :: _, _ :: _, _, _, h1, h2 => ⟨h1.1, append h1.2 h2⟩

theorem reverse : ∀ {as : List α} {bs : List β}, Pointwise r as bs → Pointwise r as.reverse bs.reverse
  | [], [], _ => trivial
  | a :: as, b :: bs, h => by
    rw [List.reverse_cons, List.reverse_cons]
    exact append (reverse h.2) ⟨h.1, trivial⟩

theorem map_left (f : γ → α) : ∀ {cs : List γ} {bs : List β}, Pointwise r (cs.map f) bs → Pointwise (fun c b => r (f c) b) cs bs
  | [], [], _ => trivial
  | _ :: _, _ :: _, h => ⟨h.1, map_left f h.2⟩

theorem map_right (f : γ → β) : ∀ {as : List α} {cs : List γ}, Pointwise r as (cs.map f) → Pointwise (fun a c => r a (f c)) as cs
  | [], [], _ => trivial
  | _ :: _, _ :: _, h => ⟨h.1, map_right f h.2⟩

end

end Pointwise

/-! Field lists (`List (String × β)`, of types and of values alike): a lookup `look` of the first
    field with key `k`, a test `g` of the field so found, and distinctness of the keys, each given by its
    equations. -/
section fields
variable {β : Type} {k : String} {look : List (String × β) → Option β}

theorem mem_of_lookup (l0 : look [] = none)
    (lc : ∀ k' x fs, look ((k', x) :: fs) = if k == k' then some x else look fs) :
    ∀ {fs : List (String × β)} {x : β}, look fs = some x → (k, x) ∈ fs
  | [], _, h => by rw [l0] at h; cases h
  | (k', y) :: fs, x, h => by
    rw [lc] at h
    split at h
    · next hk => cases h; cases eq_of_beq hk; exact List.mem_cons_self
    · exact List.mem_cons_of_mem _ (mem_of_lookup l0 lc h)

theorem lookup_of_mem (lc : ∀ k' x fs, look ((k', x) :: fs) = if k == k' then some x else look fs) :
    ∀ {fs : List (String × β)} {x : β}, (fs.map (·.1)).Nodup → (k, x) ∈ fs → look fs = some x
  | (k', y) :: fs, x, hn, hm => by
    rw [List.map_cons, List.nodup_cons] at hn
    rw [lc]
    rcases List.mem_cons.mp hm with e | hm
    · cases e; simp
    · have hne : ¬ k = k' := fun e => hn.1 (List.mem_map.mpr ⟨(k, x), hm, e⟩)
      simp [hne, lookup_of_mem lc hn.2 hm]

/-- a test of the field with key `k` (`fieldEq`, `fieldMatches`, `veqField`) -/
theorem field_test_iff {g : List (String × β) → Bool} {test : β → Bool} (g0 : g [] = false)
    (gc : ∀ k' x fs, g ((k', x) :: fs) = if k == k' then test x else g fs) (l0 : look [] = none)
    (lc : ∀ k' x fs, look ((k', x) :: fs) = if k == k' then some x else look fs) :
    ∀ fs, g fs = true ↔ ∃ x, look fs = some x ∧ test x = true
  | [] => by simp [g0, l0]
  | (k', y) :: fs => by
    rw [gc, lc]
    split
    · simp
    · exact field_test_iff g0 gc l0 lc fs

theorem keys_nodup_iff_of_eqns {g : List (String × β) → Bool} (g0 : g [] = true)
    (gc : ∀ k x fs, g ((k, x) :: fs) = (!(fs.any (fun p => p.1 == k)) && g fs)) :
    ∀ fs, g fs = true ↔ (fs.map (·.1)).Nodup
  | [] => by simp [g0]
  | (k, x) :: fs => by
    simp only [gc, Bool.and_eq_true, Bool.not_eq_true', List.any_eq_false, beq_iff_eq, List.map_cons,
      List.nodup_cons, List.mem_map, not_exists, not_and, keys_nodup_iff_of_eqns g0 gc fs]

end fields

/-- counting: `as` and `bs` have the same length, the members of `as` are pairwise unrelated, and
    every member of `as` is related to one of `bs`; then every member of `bs` is related to one of
    `as`.  `R` need only be symmetric and transitive between the two lists.  (With `=` on keys: two
    maps of the same size with distinct keys have the same keys once one's keys are the other's.) -/
theorem pigeon {α : Type} {R : α → α → Prop} : ∀ (as bs : List α),
    (∀ a ∈ as, ∀ b ∈ bs, R a b → R b a) →
    (∀ a ∈ as, ∀ b ∈ bs, ∀ a' ∈ as, R a b → R b a' → R a a') →
    as.Pairwise (fun x y => ¬ R x y) → as.length = bs.length →
    (∀ a ∈ as, ∃ b ∈ bs, R a b) → ∀ b ∈ bs, ∃ a ∈ as, R b a := by
  intro as
  induction as with
  | nil =>
    intro bs _ _ _ hlen _ b hb
    cases bs with
    | nil => cases hb
    | cons x xs => cases hlen
  | cons a as ih =>
    intro bs hsym htr hnd hlen hsub b hb
    obtain ⟨hna, hnd'⟩ := List.pairwise_cons.mp hnd
    -- the partner `b0` of `a` is the partner of no other member, so it can be set aside
    obtain ⟨b0, hb0, hab0⟩ := hsub a List.mem_cons_self
    obtain ⟨l1, l2, rfl⟩ := List.append_of_mem hb0
    -- `bs` is `b0` and the rest, up to order
    have hp : (l1 ++ b0 :: l2).Perm (b0 :: (l1 ++ l2)) := List.perm_middle
    have hmem : ∀ x, x ∈ l1 ++ b0 :: l2 ↔ x = b0 ∨ x ∈ l1 ++ l2 := fun x => hp.mem_iff.trans List.mem_cons
    have hfar : ∀ a' ∈ as, ¬ R a' b0 := fun a' ha' h =>
      hna a' ha' (htr a List.mem_cons_self b0 hb0 a' (List.mem_cons_of_mem _ ha') hab0
        (hsym a' (List.mem_cons_of_mem _ ha') b0 hb0 h))
    have ih' := ih (l1 ++ l2)
      (fun a' ha' b' hb' => hsym a' (List.mem_cons_of_mem _ ha') b' ((hmem b').mpr (.inr hb')))
      (fun a1 h1 b' hb' a2 h2 => htr a1 (List.mem_cons_of_mem _ h1) b' ((hmem b').mpr (.inr hb')) a2 (List.mem_cons_of_mem _ h2))
      hnd' (Nat.succ.inj (hlen.trans hp.length_eq))
      (fun a' ha' =>
        let ⟨b', hb', h⟩ := hsub a' (List.mem_cons_of_mem _ ha')
        ((hmem b').mp hb').elim (fun e => absurd (e ▸ h) (hfar a' ha')) fun hb' => ⟨b', hb', h⟩)
    rcases (hmem b).mp hb with rfl | hb'
    · exact ⟨a, List.mem_cons_self, hsym a List.mem_cons_self b hb0 hab0⟩
    · obtain ⟨a', ha', h'⟩ := ih' b hb'
      exact ⟨a', List.mem_cons_of_mem _ ha', h'⟩

theorem keys_pigeon {β : Type} (fa fb : List (String × β)) (ha : (fa.map (·.1)).Nodup)
    (hlen : fa.length = fb.length) (hsub : ∀ p ∈ fa, p.1 ∈ fb.map (·.1)) : ∀ q ∈ fb, q.1 ∈ fa.map (·.1) := by
  intro q hq
  obtain ⟨k, hk, e⟩ := pigeon (R := Eq) (fa.map (fun p => p.1)) (fb.map (fun p => p.1)) (fun _ _ _ _ h => h.symm)
    (fun _ _ _ _ _ _ h1 h2 => h1.trans h2) (List.nodup_iff_pairwise_ne.mp ha) (by simp [hlen])
    (fun k hk => let ⟨p, hp, e⟩ := List.mem_map.mp hk; ⟨k, e ▸ hsub p hp, rfl⟩)
    q.1 (List.mem_map.mpr ⟨q, hq, rfl⟩)
  exact e ▸ hk

theorem mem_unique_of_keys_nodup {β : Type} : ∀ {fs : List (String × β)}, (fs.map (·.1)).Nodup →
    ∀ {k : String} {x y : β}, (k, x) ∈ fs → (k, y) ∈ fs → x = y
  | (k', z) :: fs, hn, k, x, y, hx, hy => by
    rw [List.map_cons, List.nodup_cons] at hn
    rcases List.mem_cons.mp hx with ex | hx <;> rcases List.mem_cons.mp hy with ey | hy
    · cases ex; cases ey; rfl
    · cases ex; exact absurd (List.mem_map.mpr ⟨(_, y), hy, rfl⟩) hn.1
    · cases ey; exact absurd (List.mem_map.mpr ⟨(_, x), hx, rfl⟩) hn.1
    · exact mem_unique_of_keys_nodup hn.2 hx hy

/-- two maps of the same size with distinct keys: when every field of the first has a field with the
    same key in the second to which it is related, every field of the second is so reached (`==` on
    struct types and on struct values looks from the first only) -/
theorem fields_flip {β : Type} {r : β → β → Prop} (fa fb : List (String × β)) (ha : (fa.map (·.1)).Nodup)
    (hb : (fb.map (·.1)).Nodup) (hlen : fa.length = fb.length)
    (h : ∀ p ∈ fa, ∃ y, (p.1, y) ∈ fb ∧ r p.2 y) : ∀ q ∈ fb, ∃ p ∈ fa, p.1 = q.1 ∧ r p.2 q.2 := by
  intro q hq
  have hsubk : ∀ p ∈ fa, p.1 ∈ fb.map (·.1) := fun p hp =>
    let ⟨y, hy, _⟩ := h p hp
    List.mem_map.mpr ⟨(p.1, y), hy, rfl⟩
  obtain ⟨p, hp, hpk⟩ := List.mem_map.mp (keys_pigeon fa fb ha hlen hsubk q hq)
  obtain ⟨y, hy, hr⟩ := h p hp
  have e : y = q.2 := mem_unique_of_keys_nodup hb hy (hpk ▸ hq : (p.1, q.2) ∈ fb)
  exact ⟨p, hp, hpk, e ▸ hr⟩

theorem takeWhile_dropWhile_append {α} (p : α → Bool) (w rest : List α) (hw : ∀ c ∈ w, p c = true)
    (hr : ∀ c cs, rest = c :: cs → p c = false) :
    (w ++ rest).takeWhile p = w ∧ (w ++ rest).dropWhile p = rest := by
  rw [List.takeWhile_append_of_pos hw, List.dropWhile_append_of_pos hw]
  cases rest with
  | nil => simp
  | cons c cs => simp [hr c cs rfl]

end Ssl
