import SslModel.Model.CheckS
import SslModel.Lemmas.Ty
import SslModel.Lemmas.SpecEq
/-!
The three checker models (`Check.tyOf`, `CheckF.tyF`, `CheckS.tyS`).  `Res.All P r`: whatever `r` answers satisfies `P`, with
one rule for each way the models build an answer, so that a typing equation is inverted without naming the
intermediate equations.  `Res.Le`: the models extend one another - whatever `tyOf` answers `tyF` answers, and whatever
`tyF` answers `tyS` answers.  Every answered type is well-formed: proved for `tyS`, carried down to the smaller models.
-/
namespace Ssl.Check
open Ssl Ssl.Ty

theorem Res.bind_ok {α β} {r : Res α} {k : α → Res β} {b : β} (h : r.bind k = .ok b) : ∃ a, r = .ok a ∧ k a = .ok b := by
  cases r with
  | ok a => exact ⟨a, rfl, h⟩
  | ill => cases h
  | unsup => cases h

theorem Res.ite_ill_ok {c : Prop} [Decidable c] {a : Res Ty} {T : Ty} (h : (if c then a else .ill) = .ok T) : c ∧ a = .ok T := by
  split at h
  · exact ⟨‹c›, h⟩
  · cases h

theorem okW_ok {t T : Ty} (h : okW t = .ok T) : T = t ∧ wf t = true := by
  unfold okW at h
  split at h
  · rename_i hw; cases h; exact ⟨rfl, hw⟩
  · cases h

def Res.Le {α} (a b : Res α) : Prop := ∀ x, a = .ok x → b = .ok x

theorem Res.le_refl {α} (a : Res α) : a.Le a := fun _ h => h

theorem unsup_le {α} (b : Res α) : (Res.unsup : Res α).Le b := nofun

theorem Res.bind_le {α β} {a a' : Res α} {k k' : α → Res β} (h : a.Le a') (hk : ∀ x, (k x).Le (k' x)) :
    (a.bind k).Le (a'.bind k') := by
  intro y hy
  cases a with
  | ok x => rw [h x rfl]; exact hk x y hy
  | ill => cases hy
  | unsup => cases hy

theorem Res.bind_le_left {α β} {a a' : Res α} {k : α → Res β} (h : a.Le a') : (a.bind k).Le (a'.bind k) :=
  Res.bind_le h fun _ => Res.le_refl _

theorem Res.ite_le {α} {c : Prop} [Decidable c] {a a' b b' : Res α} (ha : a.Le a') (hb : b.Le b') :
    (if c then a else b).Le (if c then a' else b') := by
  split
  · exact ha
  · exact hb

def Res.All {α} (P : α → Prop) (r : Res α) : Prop := ∀ a, r = .ok a → P a

theorem Res.All.bind {α β} {r : Res α} {k : α → Res β} {P : β → Prop} (hk : ∀ a, r = .ok a → (k a).All P) :
    (r.bind k).All P := fun b h =>
  let ⟨a, h1, h2⟩ := Res.bind_ok h
  hk a h1 b h2

theorem Res.All.ok {α} {P : α → Prop} {a : α} (h : P a) : (Res.ok a).All P := fun _ e => by cases e; exact h

theorem Res.All.ill {α} {P : α → Prop} : (Res.ill : Res α).All P := fun _ e => by cases e

theorem Res.All.unsup {α} {P : α → Prop} : (Res.unsup : Res α).All P := fun _ e => by cases e

theorem Res.All.ite {α} {P : α → Prop} {c : Prop} [Decidable c] {a b : Res α} (ha : a.All P) (hb : b.All P) :
    (if c then a else b).All P := by
  split
  · exact ha
  · exact hb

theorem Res.All.iteP {α} {P : α → Prop} {c : Prop} [Decidable c] {a b : Res α} (ha : c → a.All P) (hb : ¬ c → b.All P) :
    (if c then a else b).All P := by
  split
  · exact ha ‹_›
  · exact hb ‹_›

/-- for `Option Ty` and not for any `Option α`: a `match` written over a type variable is another term than the `match`es of
    the models, and a rule stated with it applies to none of them -/
theorem Res.All.optTy {β} {P : β → Prop} {o : Option Ty} {k : Ty → Res β} {d : Res β}
    (hs : ∀ t, o = some t → (k t).All P) (hn : o = none → d.All P) :
    (match o with | some t => k t | none => d).All P := by
  cases o
  · exact hn rfl
  · exact hs _ rfl

theorem okW_all (t : Ty) : (okW t).All (wf · = true) := fun _ h => (okW_ok h).1 ▸ (okW_ok h).2

theorem okW_allP {P : Ty → Prop} {t : Ty} (h : wf t = true → P t) : (okW t).All P :=
  fun _ e => (okW_ok e).1 ▸ h (okW_ok e).2

theorem binTy_wf (op : BinOp) (l r : Ty) : (binTy op l r).All (wf · = true) := by
  cases op with
  | add =>
    simp only [binTy]
    split
    · exact okW_all _
    · exact .ite (okW_all _) (.ite .unsup .ill)
  | sub | mul | div | pow | band | bor | bxor => simp only [binTy]; exact .ite (okW_all _) .ill
  | lt | le | gt | ge | mod | shl | shr => simp only [binTy]; exact .ite (.ok rfl) .ill
  | eq | ne => simp only [binTy]; exact .ok rfl
  | filter | map | partition => simp only [binTy]; exact .unsup

end Ssl.Check

namespace Ssl.CheckF
open Ssl Ssl.Ty Ssl.Check

theorem wfL_of_wfParams (ps : List (String × Ty)) (h : wfParams ps = true) : wfL (ps.map (·.2)) = true :=
  (wfL_iff _).mpr fun t ht => by
    obtain ⟨p, hp, rfl⟩ := List.mem_map.mp ht
    exact List.all_eq_true.mp h p hp

theorem tyFSeq_cons_ne_nil {r : Option Ty} {g g' : TEnv} {s : Expr} {rest : List Expr} {ts : List Ty}
    (h : tyFSeq r g (s :: rest) = .ok (ts, g')) : ts ≠ [] := by
  rw [tyFSeq] at h
  obtain ⟨p, _, h⟩ := Res.bind_ok h
  obtain ⟨q, _, h⟩ := Res.bind_ok h
  cases h
  simp

/-- `g'` knows every well-formed binding of `g` (the checker models answer `unsup` at a variable of an ill-formed type, so
    such bindings do not matter to what they answer) -/
def EnvLe (g g' : TEnv) : Prop := ∀ x t, g.lookup x = some t → wf t = true → g'.lookup x = some t

theorem EnvLe.refl (g : TEnv) : EnvLe g g := fun _ _ h _ => h

theorem EnvLe.cons {g g' : TEnv} (h : EnvLe g g') (x : String) (t : Ty) : EnvLe ((x, t) :: g) ((x, t) :: g') := by
  intro y u hy wu
  simp only [TEnv.lookup] at hy ⊢
  split
  · rename_i hxy; rw [if_pos hxy] at hy; exact hy
  · rename_i hxy; rw [if_neg hxy] at hy; exact h y u hy wu

/-- the catch-all arm of the statement checkers, as `Fold.evalStmt_notDecl` is that of `evalStmt` -/
theorem tyOfStmt_notDecl (g : TEnv) (s : Expr) (h : Fold.isDecl s = false) : tyOfStmt g s = (tyOf g s).bind fun t => .ok (t, g) := by
  cases s <;> first | (cases h; done) | (unfold tyOfStmt; rfl)

theorem tyFStmt_notDecl (r : Option Ty) (g : TEnv) (s : Expr) (h : Fold.isDecl s = false) :
    tyFStmt r g s = (tyF r g s).bind fun t => .ok (t, g) := by
  cases s <;> first | (cases h; done) | (unfold tyFStmt; rfl)

mutual
theorem tyOf_le (r : Option Ty) {g g' : TEnv} (hg : EnvLe g g') (e : Expr) : (tyOf g e).Le (tyF r g' e) := by
  cases e with
  | litBool _ | litInt _ | litFloat _ | litStr _ | litUnit => simp only [tyOf, tyF]; exact Res.le_refl _
  | var x =>
    simp only [tyOf, tyF]
    intro T h
    split at h
    · rename_i t hl; rw [hg x t hl (okW_ok h).2]; exact h
    · cases h
  | array es => simp only [tyOf, tyF]; exact Res.bind_le_left (tyOfList_le r hg es)
  | tuple es => simp only [tyOf, tyF]; exact Res.ite_le (Res.le_refl _) (Res.bind_le_left (tyOfList_le r hg es))
  | pre op a =>
    cases op with
    | deref => unfold tyOf; exact unsup_le _
    | _ => simp only [tyOf, tyF]; exact Res.bind_le_left (tyOf_le r hg a)
  | and a b | or a b | bin _ a b | «at» a b | arrayRepeat a b =>
    simp only [tyOf, tyF]; exact Res.bind_le (tyOf_le r hg a) fun _ => Res.bind_le_left (tyOf_le r hg b)
  | tacc a _ => simp only [tyOf, tyF]; exact Res.bind_le_left (tyOf_le r hg a)
  | ifElse c t e =>
    simp only [tyOf, tyF]
    refine Res.bind_le (tyOf_le r hg c) fun _ => Res.ite_le (Res.le_refl _) (Res.bind_le (tyOf_le r hg t) fun _ => ?_)
    cases e with
    | none => exact Res.le_refl _
    | some e => exact Res.bind_le_left (tyOf_le r hg e)
  | block body =>
    simp only [tyOf, tyF]
    intro T h
    obtain ⟨p, hs, h⟩ := Res.bind_ok h
    obtain ⟨ts, g1, h1, h2, _⟩ := tyOfSeq_le r hg body p.1 p.2 hs
    rw [h1]
    simpa [Res.bind, h2] using h
  | ifSet x ty e body els =>
    simp only [tyOf, tyF]
    refine Res.ite_le (Res.le_refl _) (Res.bind_le (tyOf_le r hg e) fun _ => Res.bind_le (tyOf_le r (hg.cons x ty) body) fun _ => ?_)
    cases els with
    | none => exact Res.le_refl _
    | some e => exact Res.bind_le_left (tyOf_le r hg e)
  | slice a st en sp =>
    simp only [tyOf, tyF]
    exact Res.bind_le (tyOf_le r hg a) fun _ => Res.bind_le (tyOfOpt_le r hg st) fun _ => Res.bind_le (tyOfOpt_le r hg en) fun _ =>
      Res.bind_le_left (tyOfOpt_le r hg sp)
  | matchE e arms =>
    simp only [tyOf, tyF]
    exact Res.bind_le (tyOf_le r hg e) fun _ => Res.bind_le_left (tyOfArms_le r hg arms)
  | _ => unfold tyOf; exact unsup_le _
termination_by structural e
theorem tyOfOpt_le (r : Option Ty) {g g' : TEnv} (hg : EnvLe g g') (o : Option Expr) : (tyOfOpt g o).Le (tyFOpt r g' o) := by
  cases o with
  | none => simp only [tyOfOpt, tyFOpt]; exact Res.le_refl _
  | some e => simp only [tyOfOpt, tyFOpt]; exact Res.bind_le_left (tyOf_le r hg e)
termination_by structural o
theorem tyOfList_le (r : Option Ty) {g g' : TEnv} (hg : EnvLe g g') (es : List Expr) : (tyOfList g es).Le (tyFList r g' es) := by
  cases es with
  | nil => simp only [tyOfList, tyFList]; exact Res.le_refl _
  | cons e es =>
    simp only [tyOfList, tyFList]
    exact Res.bind_le (tyOf_le r hg e) fun _ => Res.bind_le_left (tyOfList_le r hg es)
termination_by structural es
theorem tyOfArms_le (r : Option Ty) {g g' : TEnv} (hg : EnvLe g g') (arms : List Arm) : (tyOfArms g arms).Le (tyFArms r g' arms) := by
  cases arms with
  | nil => simp only [tyOfArms, tyFArms]; exact Res.le_refl _
  | cons arm rest =>
    cases arm with
    | ty x t body =>
      simp only [tyOfArms, tyFArms]
      exact Res.ite_le (Res.le_refl _) (Res.bind_le (tyOf_le r (hg.cons x t) body) fun _ => Res.bind_le_left (tyOfArms_le r hg rest))
    | val cands body =>
      simp only [tyOfArms, tyFArms]
      exact Res.bind_le (tyOfList_le r hg cands) fun _ => Res.bind_le (tyOf_le r hg body) fun _ =>
        Res.bind_le_left (tyOfArms_le r hg rest)
    | other body =>
      simp only [tyOfArms, tyFArms]
      exact Res.bind_le (tyOf_le r hg body) fun _ => Res.bind_le_left (tyOfArms_le r hg rest)
termination_by structural arms
/-- `tyOfSeq` answers the last type, `tyFSeq` all of them -/
theorem tyOfSeq_le (r : Option Ty) {g g' : TEnv} (hg : EnvLe g g') (body : List Expr) (T : Ty) (g1 : TEnv)
    (h : tyOfSeq g body = .ok (T, g1)) : ∃ ts g1', tyFSeq r g' body = .ok (ts, g1') ∧ lastTy ts = T ∧ EnvLe g1 g1' := by
  cases body with
  | nil => simp only [tyOfSeq] at h; cases h; exact ⟨[], g', by simp only [tyFSeq], rfl, hg⟩
  | cons s rest =>
    -- the statement's own lemma stands here and not in the mutual block: `tyOfStmt` hands the statement itself on to
    -- `tyOf`, which structural recursion does not allow, and recursion on `sizeOf` instead is an order dearer to check
    have hst : ∀ t g1, tyOfStmt g s = .ok (t, g1) → ∃ g1', tyFStmt r g' s = .ok (t, g1') ∧ EnvLe g1 g1' := by
      intro t g1 h
      cases hd : Fold.isDecl s with
      | false =>
        rw [tyOfStmt_notDecl g s hd] at h
        obtain ⟨u, hu, h⟩ := Res.bind_ok h
        cases h
        exact ⟨_, by rw [tyFStmt_notDecl r g' s hd, tyOf_le r hg s _ hu]; rfl, hg⟩
      | true =>
        cases s with
        | set x e =>
          simp only [tyOfStmt] at h
          obtain ⟨u, hu, h⟩ := Res.bind_ok h
          cases h
          exact ⟨_, by simp only [tyFStmt, tyOf_le r hg e _ hu, Res.bind], hg.cons x t⟩
        | destruct _ _ | fndecl _ _ _ _ => simp only [tyOfStmt] at h; cases h
        | _ => cases hd
    cases rest with
    | nil =>
      simp only [tyOfSeq] at h
      obtain ⟨g1', h1, h2⟩ := hst _ _ h
      exact ⟨[T], g1', by simp only [tyFSeq, h1, Res.bind], rfl, h2⟩
    | cons s2 rest =>
      simp only [tyOfSeq] at h
      obtain ⟨p, hs, h⟩ := Res.bind_ok h
      obtain ⟨g2, hs', hg2⟩ := hst _ _ hs
      obtain ⟨ts, g1', h1, h2, h3⟩ := tyOfSeq_le r hg2 (s2 :: rest) T g1 h
      refine ⟨p.1 :: ts, g1', by rw [tyFSeq, hs']; simp only [Res.bind, h1], ?_, h3⟩
      cases ts with
      | nil => exact absurd rfl (tyFSeq_cons_ne_nil h1)
      | cons t ts => simpa [lastTy] using h2
termination_by structural body
end

end Ssl.CheckF

namespace Ssl.CheckS
open Ssl Ssl.Ty Ssl.Check Ssl.CheckF

theorem tySStmt_notDecl (lp : Bool) (r : Option Ty) (g : TEnv) (s : Expr) (h : Fold.isDecl s = false) :
    tySStmt lp r g s = (tyS lp r g s).bind fun t => .ok (t, g) := by
  cases s <;> first | (cases h; done) | (unfold tySStmt; rfl)

mutual
theorem tyF_le (lp : Bool) (r : Option Ty) (g : TEnv) (e : Expr) : (tyF r g e).Le (tyS lp r g e) := by
  cases e with
  | litBool _ | litInt _ | litFloat _ | litStr _ | litUnit | var _ => simp only [tyF, tyS]; exact Res.le_refl _
  | array es => simp only [tyF, tyS]; exact Res.bind_le_left (tyFList_le lp r g es)
  | tuple es => simp only [tyF, tyS]; exact Res.ite_le (Res.le_refl _) (Res.bind_le_left (tyFList_le lp r g es))
  | pre op a =>
    cases op with
    | deref => unfold tyF; exact unsup_le _
    | _ => simp only [tyF, tyS]; exact Res.bind_le_left (tyF_le lp r g a)
  | and a b | or a b | bin _ a b | arrayRepeat a b =>
    simp only [tyF, tyS]; exact Res.bind_le (tyF_le lp r g a) fun _ => Res.bind_le_left (tyF_le lp r g b)
  | «at» a b =>
    simp only [tyF, tyS]
    refine Res.bind_le (tyF_le lp r g a) fun ta => Res.bind_le (tyF_le lp r g b) fun _ => Res.ite_le (Res.le_refl _) ?_
    cases ta <;> first | exact Res.le_refl _ | exact unsup_le _
  | tacc a _ =>
    simp only [tyF, tyS]
    refine Res.bind_le (tyF_le lp r g a) fun ta => ?_
    cases ta <;> first | exact Res.le_refl _ | exact unsup_le _
  | ifElse c t e =>
    simp only [tyF, tyS]
    refine Res.bind_le (tyF_le lp r g c) fun _ => Res.ite_le (Res.le_refl _) (Res.bind_le (tyF_le lp r g t) fun _ => ?_)
    cases e with
    | none => exact Res.le_refl _
    | some e => exact Res.bind_le_left (tyF_le lp r g e)
  | block body => simp only [tyF, tyS]; exact Res.bind_le_left (tyFSeq_le lp r g body)
  | ifSet x ty e body els =>
    simp only [tyF, tyS]
    refine Res.ite_le (Res.le_refl _) (Res.bind_le (tyF_le lp r g e) fun _ => Res.bind_le (tyF_le lp r _ body) fun _ => ?_)
    cases els with
    | none => exact Res.le_refl _
    | some e => exact Res.bind_le_left (tyF_le lp r g e)
  | slice a st en sp =>
    simp only [tyF, tyS]
    refine Res.bind_le (tyF_le lp r g a) fun ta => Res.bind_le (tyFOpt_le lp r g st) fun _ => Res.bind_le (tyFOpt_le lp r g en) fun _ =>
      Res.bind_le (tyFOpt_le lp r g sp) fun _ => Res.ite_le (Res.le_refl _) (Res.ite_le (Res.le_refl _) ?_)
    cases ta <;> first | exact Res.le_refl _ | exact unsup_le _
  | matchE e arms =>
    simp only [tyF, tyS]
    exact Res.bind_le (tyF_le lp r g e) fun _ => Res.bind_le_left (tyFArms_le lp r g arms)
  | fn ps rt body =>
    simp only [tyF, tyS]
    exact Res.ite_le (Res.le_refl _) (Res.bind_le_left (tyFSeq_le false _ _ body))
  | call f args =>
    simp only [tyF, tyS]
    refine Res.bind_le (tyF_le lp r g f) fun tf => Res.bind_le (tyFList_le lp r g args) fun _ => ?_
    cases tf <;> first | exact Res.le_refl _ | exact unsup_le _
  | ret e =>
    cases r with
    | none => simp only [tyF, tyS]; exact Res.le_refl _
    | some rt =>
      cases e with
      | none => simp only [tyF, tyS]; exact Res.le_refl _
      | some e => simp only [tyF, tyS]; exact Res.bind_le_left (tyF_le lp _ g e)
  | _ => unfold tyF; exact unsup_le _
termination_by structural e
theorem tyFOpt_le (lp : Bool) (r : Option Ty) (g : TEnv) (o : Option Expr) : (tyFOpt r g o).Le (tySOpt lp r g o) := by
  cases o with
  | none => simp only [tyFOpt, tySOpt]; exact Res.le_refl _
  | some e => simp only [tyFOpt, tySOpt]; exact Res.bind_le_left (tyF_le lp r g e)
termination_by structural o
theorem tyFList_le (lp : Bool) (r : Option Ty) (g : TEnv) (es : List Expr) : (tyFList r g es).Le (tySList lp r g es) := by
  cases es with
  | nil => simp only [tyFList, tySList]; exact Res.le_refl _
  | cons e es =>
    simp only [tyFList, tySList]
    exact Res.bind_le (tyF_le lp r g e) fun _ => Res.bind_le_left (tyFList_le lp r g es)
termination_by structural es
theorem tyFArms_le (lp : Bool) (r : Option Ty) (g : TEnv) (arms : List Arm) : (tyFArms r g arms).Le (tySArms lp r g arms) := by
  cases arms with
  | nil => simp only [tyFArms, tySArms]; exact Res.le_refl _
  | cons arm rest =>
    cases arm with
    | ty x t body =>
      simp only [tyFArms, tySArms]
      exact Res.ite_le (Res.le_refl _) (Res.bind_le (tyF_le lp r _ body) fun _ => Res.bind_le_left (tyFArms_le lp r g rest))
    | val cands body =>
      simp only [tyFArms, tySArms]
      exact Res.bind_le (tyFList_le lp r g cands) fun _ => Res.bind_le (tyF_le lp r g body) fun _ =>
        Res.bind_le_left (tyFArms_le lp r g rest)
    | other body =>
      simp only [tyFArms, tySArms]
      exact Res.bind_le (tyF_le lp r g body) fun _ => Res.bind_le_left (tyFArms_le lp r g rest)
termination_by structural arms
theorem tyFSeq_le (lp : Bool) (r : Option Ty) (g : TEnv) (body : List Expr) : (tyFSeq r g body).Le (tySSeq lp r g body) := by
  cases body with
  | nil => simp only [tyFSeq, tySSeq]; exact Res.le_refl _
  | cons s rest =>
    have hst : ∀ g, (tyFStmt r g s).Le (tySStmt lp r g s) := by
      intro g
      cases hd : Fold.isDecl s with
      | false => rw [tyFStmt_notDecl r g s hd, tySStmt_notDecl lp r g s hd]; exact Res.bind_le_left (tyF_le lp r g s)
      | true =>
        cases s with
        | set x e => simp only [tyFStmt, tySStmt]; exact Res.bind_le_left (tyF_le lp r g e)
        | destruct _ _ => simp only [tyFStmt]; exact unsup_le _
        | fndecl x ps rt body =>
          simp only [tyFStmt, tySStmt]
          exact Res.ite_le (Res.le_refl _) (Res.bind_le_left (tyFSeq_le false _ _ body))
        | _ => cases hd
    simp only [tyFSeq, tySSeq]
    exact Res.bind_le (hst g) fun p => Res.bind_le_left (tyFSeq_le lp r p.2 rest)
termination_by structural body
end


/-! ### the answered types are well-formed: every answer is `okW` of a computed type, a literal type, `ill` or `unsup` -/

theorem tyS_wf (lp : Bool) (ret : Option Ty) (g : TEnv) (e : Expr) : (tyS lp ret g e).All (wf · = true) := by
  cases e with
  | litBool _ | litInt _ | litFloat _ | litStr _ | litUnit => unfold tyS; exact .ok rfl
  | var x =>
    unfold tyS
    split
    · exact okW_all _
    · exact .ill
  | array es => unfold tyS; exact .bind fun _ _ => okW_all _
  | tuple es => unfold tyS; exact .ite .unsup (.bind fun _ _ => okW_all _)
  | pre op e =>
    cases op with
    | not | neg => unfold tyS; exact .bind fun _ _ => .ite (okW_all _) .ill
    | deref =>
      unfold tyS
      refine .bind fun t _ => ?_
      split
      · exact okW_all _
      · refine .ite .ill ?_
        split
        · exact okW_all _
        · exact .unsup
      · exact .unsup
      · exact .ill
  | and a b | or a b => unfold tyS; exact .bind fun _ _ => .bind fun _ _ => .ite (.ok rfl) .ill
  | bin op a b => unfold tyS; exact .bind fun _ _ => .bind fun _ _ => binTy_wf _ _ _
  | «at» a i =>
    unfold tyS
    refine .bind fun ta _ => .bind fun _ _ => .ite .ill ?_
    split
    · exact okW_all _
    · exact .ok rfl
    · refine .ite .ill ?_
      split
      · exact okW_all _
      · exact .unsup
    · exact .unsup
    · exact .ill
  | tacc e n =>
    unfold tyS
    refine .bind fun t _ => ?_
    split
    · split
      · exact okW_all _
      · exact .ill
    · refine .ite .ill ?_
      split
      · refine .ite ?_ .ill
        split
        · exact okW_all _
        · exact .unsup
      · exact .unsup
    · exact .unsup
    · exact .ill
  | ifElse c t e =>
    unfold tyS
    refine .bind fun _ _ => .ite .ill (.bind fun _ _ => ?_)
    split
    · exact .bind fun _ _ => okW_all _
    · exact okW_all _
  | block body => unfold tyS; exact .bind fun ⟨_, _⟩ _ => okW_all _
  | ifSet x ty e body els =>
    unfold tyS
    refine .ite .unsup (.bind fun _ _ => .bind fun _ _ => ?_)
    split
    · exact .bind fun _ _ => okW_all _
    · exact okW_all _
  | matchE e arms => unfold tyS; exact .bind fun _ _ => .bind fun _ _ => .ite .ill (okW_all _)
  | arrayRepeat v n => unfold tyS; exact .bind fun _ _ => .bind fun _ _ => .ite .ill (.ite .unsup (okW_all _))
  | slice a st en sp =>
    unfold tyS
    refine .bind fun ta _ => .bind fun _ _ => .bind fun _ _ => .bind fun _ _ => .ite .ill (.ite .ill ?_)
    split
    · exact okW_all _
    · exact .ok rfl
    · exact okW_all _
    · exact .unsup
  | fn ps rt body => unfold tyS; exact .ite .unsup (.bind fun ⟨_, _⟩ _ => .ite .ill (okW_all _))
  | call f args =>
    unfold tyS
    refine .bind fun tf _ => .bind fun _ _ => ?_
    split
    · exact .ite (okW_all _) .ill
    · refine .ite .ill ?_
      split
      · exact .ill
      · split
        · exact .ite (okW_all _) .ill
        · exact .unsup
    · exact .unsup
    · exact .ill
    · exact .ill
  | ret e =>
    cases ret with
    | none => unfold tyS; exact .ill
    | some rt =>
      cases e with
      | some e => unfold tyS; exact .bind fun _ _ => .ite (.ok rfl) .ill
      | none => unfold tyS; exact .ite (.ok rfl) .ill
  | mutE oty e =>
    cases oty with
    | none => unfold tyS; exact .unsup
    | some ty => unfold tyS; exact .ite .unsup (.bind fun _ _ => .ite (okW_all _) .ill)
  | assign op target value =>
    unfold tyS
    refine .bind fun tt _ => .bind fun tv _ => ?_
    split
    · split
      · exact .ite (okW_all _) .ill
      · exact .bind fun _ _ => .ite (okW_all _) .ill
      · exact .bind fun _ _ => .ite (okW_all _) .ill
    · split
      · split
        · exact .ite (okW_all _) .ill
        · exact .ill
      · exact .unsup
    · exact .unsup
    · exact .ill
  | loop body => unfold tyS; exact .bind fun _ _ => .ok rfl
  | «while» c body => unfold tyS; exact .bind fun _ _ => .ite .ill (.bind fun _ _ => .ok rfl)
  | whileSet x ty e body => unfold tyS; exact .ite .unsup (.bind fun _ _ => .bind fun _ _ => .ok rfl)
  | forE x it body =>
    unfold tyS
    refine .bind fun ti _ => ?_
    split
    · exact .ite .ill (.bind fun _ _ => .ok rfl)
    · exact .unsup
    · exact .unsup
    · exact .unsup
    · exact .ill
  | struct fs => unfold tyS; exact .bind fun _ _ => okW_all _
  | facc e k =>
    unfold tyS
    refine .bind fun t _ => ?_
    split
    · split
      · exact okW_all _
      · exact .ill
    · refine .ite .ill (.ite .ill ?_)
      split
      · exact okW_all _
      · exact .unsup
    · exact .unsup
    · exact .ill
  | post op e =>
    cases op with
    | collect =>
      unfold tyS
      refine .bind fun ti _ => ?_
      split
      · exact .ite .ill (okW_all _)
      · exact .unsup
      · exact .unsup
      · exact .unsup
      · exact .ill
    | _ => unfold tyS; exact .unsup
  | brk | cont => unfold tyS; exact .ite (.ok rfl) .ill
  | _ => unfold tyS; exact .unsup

theorem tySStmt_wf (lp : Bool) (ret : Option Ty) (g : TEnv) (s : Expr) : (tySStmt lp ret g s).All fun p => wf p.1 = true := by
  cases hd : Fold.isDecl s with
  | false => rw [tySStmt_notDecl lp ret g s hd]; exact .bind fun t ht => .ok (tyS_wf lp ret g s t ht)
  | true =>
    cases s with
    | set x e => simp only [tySStmt]; exact .bind fun t ht => .ok (tyS_wf lp ret g e t ht)
    | destruct xs e =>
      simp only [tySStmt]
      refine .bind fun te hte => ?_
      have wte := tyS_wf lp ret g e te hte
      cases te with
      | tup ts => exact .ite (.ok wte) .ill
      | multi _ =>
        refine .ite .ill ?_
        split
        · exact .ill
        · exact .ite (by split; exact .ok wte; exact .unsup) .ill
      | never => exact .unsup
      | _ => exact .ill
    | fndecl x ps rt body =>
      simp only [tySStmt]
      split
      · exact .unsup
      · rename_i hwf
        have hwf' : wfParams ps = true ∧ wf rt = true := by simpa using hwf
        exact .bind fun _ _ => .ite .ill (.ok (by simp [wf, wfL_of_wfParams ps hwf'.1, hwf'.2]))
    | _ => cases hd

theorem tySSeq_wf (lp : Bool) (ret : Option Ty) : ∀ (body : List Expr) (g : TEnv), (tySSeq lp ret g body).All fun p => wfL p.1 = true
  | [], g => by simp only [tySSeq]; exact .ok rfl
  | s :: rest, g => by
    simp only [tySSeq]
    exact .bind fun p hp => .bind fun q hq => .ok
      (by simp only [wfL, tySStmt_wf lp ret g s p hp, tySSeq_wf lp ret rest p.2 q hq, Bool.and_self])

theorem lastTy_wf : ∀ (ts : List Ty), wfL ts = true → wf (lastTy ts) = true
  | [], _ => rfl
  | [t], h => by simp only [wfL, Bool.and_eq_true] at h; simpa [lastTy] using h.1
  | t :: t2 :: ts, h => by
    simp only [wfL, Bool.and_eq_true] at h
    have := lastTy_wf (t2 :: ts) (by simp only [wfL, Bool.and_eq_true]; exact h.2)
    simpa [lastTy] using this

theorem tySList_wf (lp : Bool) (ret : Option Ty) (g : TEnv) : ∀ es : List Expr, (tySList lp ret g es).All (wfL · = true)
  | [] => by simp only [tySList]; exact .ok rfl
  | e :: es => by
    simp only [tySList]
    exact .bind fun t ht => .bind fun ts hts => .ok (by simp only [wfL, tyS_wf lp ret g e t ht, tySList_wf lp ret g es ts hts, Bool.and_self])

theorem tySArms_wf (lp : Bool) (ret : Option Ty) (g : TEnv) : ∀ arms : List Arm, (tySArms lp ret g arms).All (wfL · = true)
  | [] => by simp only [tySArms]; exact .ok rfl
  | arm :: rest => by
    have tl : ∀ {tb : Ty}, wf tb = true → ((tySArms lp ret g rest).bind fun ts => .ok (tb :: ts)).All (wfL · = true) :=
      fun w => .bind fun ts hts => .ok (by simp only [wfL, w, tySArms_wf lp ret g rest ts hts, Bool.and_self])
    cases arm with
    | ty x t body => simp only [tySArms]; exact .ite .unsup (.bind fun tb htb => tl (tyS_wf _ _ _ body tb htb))
    | val cands body => simp only [tySArms]; exact .bind fun _ _ => .bind fun tb htb => tl (tyS_wf _ _ _ body tb htb)
    | other body => simp only [tySArms]; exact .bind fun tb htb => tl (tyS_wf _ _ _ body tb htb)

end Ssl.CheckS

namespace Ssl.CheckF
open Ssl Ssl.Ty Ssl.Check Ssl.CheckS

theorem tyF_wf (ret : Option Ty) (g : TEnv) (e : Expr) (T : Ty) (h : tyF ret g e = .ok T) : wf T = true :=
  tyS_wf false ret g e T (tyF_le false ret g e T h)

theorem tyFList_wf (ret : Option Ty) (g : TEnv) (es : List Expr) (ts : List Ty) (h : tyFList ret g es = .ok ts) :
    wfL ts = true := tySList_wf false ret g es ts (tyFList_le false ret g es ts h)

theorem tyFArms_wf (ret : Option Ty) (g : TEnv) (arms : List Arm) (tys : List Ty) (h : tyFArms ret g arms = .ok tys) :
    wfL tys = true := tySArms_wf false ret g arms tys (tyFArms_le false ret g arms tys h)

end Ssl.CheckF

namespace Ssl.Check
open Ssl Ssl.Ty Ssl.CheckF

theorem tyOf_wf (g : TEnv) (e : Expr) (T : Ty) (h : tyOf g e = .ok T) : wf T = true :=
  tyF_wf none g e T (tyOf_le none (EnvLe.refl g) e T h)

end Ssl.Check
