import SslModel.Model.Val
/-!
  The static types the checker assigns (`ReturnType::return_type` after the admissibility tests of
  `create_instruction`), for the FIRST-ORDER EXPRESSION FRAGMENT of the language: literals, variables,
  array and tuple literals, prefix `!` / `-`, `&&` / `||`, the scalar binary operators, indexing and tuple
  access on non-union operands, `if` / `else`, `if x: T = e` (run-time type tests), `match` (type, value and default arms with
  the coverage test), blocks and `:=` declarations.  Everything else (functions, calls, cells, loops, structs, iterators) answers `unsup` - the fragment is what the
  evaluator-level soundness theorem (`C01.eval_sound`, Thm/C02Eval) is about.

  Sources: instruction/{array,tuple,prefix_op,unary_operation,bin_op,bin_op/math/add,bin_op/bitwise,at,
  tuple_access,control_flow/if_else,block,set,local_variable}.rs.
-/
namespace Ssl.Check
open Ssl Ssl.Ty

inductive Res (α : Type) where
  | ok (a : α)
  | ill          -- the checker reports an error
  | unsup        -- outside the modelled fragment
  deriving Repr, Inhabited

@[inline] def Res.bind {α β} (r : Res α) (f : α → Res β) : Res β :=
  match r with
  | .ok a => f a
  | .ill => .ill
  | .unsup => .unsup

/-- a computed type is answered only when well-formed (it always is: the guard never fires on the correspondence
    stream; it spares the soundness proof a separate induction over expressions) -/
def okW (t : Ty) : Res Ty := if wf t then .ok t else .unsup

abbrev TEnv := List (String × Ty)

def TEnv.lookup (x : String) : TEnv → Option Ty
  | [] => none
  | (y, t) :: g => if x == y then some t else TEnv.lookup x g

def pairTy (a b : Ty) : Ty := .tup [a, b]
/-- `ACCEPTED_NUM_TYPE`, `ACCEPTED_INT_TYPE`, add's and bitwise's `ACCEPTED_TYPE` -/
def accNum : Ty := .multi [pairTy .int .int, pairTy .float .float]
def accInt : Ty := pairTy .int .int
def accAddScalar : Ty := .multi [pairTy .int .int, pairTy .float .float, pairTy .str .str]
def accAdd : Ty := .multi [pairTy .int .int, pairTy .float .float, pairTy .str .str, pairTy (.arr .any) (.arr .any)]
def accBit : Ty := .multi [pairTy .int .int, pairTy .bool .bool]
def accNot : Ty := .multi [.int, .bool]
def accNeg : Ty := .multi [.int, .float]

/-- `can_be_used` + `BinOperation::return_type` -/
def binTy (op : BinOp) (l r : Ty) : Res Ty :=
  match op with
  | .add =>
    match l, r with
    | .arr le, .arr re => okW (.arr (concat le re))
    | _, _ =>
      if sub (pairTy l r) accAddScalar then okW l
      else if sub (pairTy l r) accAdd then .unsup      -- unions of array types: not in the fragment
      else .ill
  | .sub | .mul | .div | .pow => if sub (pairTy l r) accNum then okW l else .ill
  | .lt | .le | .gt | .ge => if sub (pairTy l r) accNum then .ok .bool else .ill
  | .mod | .shl | .shr => if sub (pairTy l r) accInt then .ok .int else .ill
  | .eq | .ne => .ok .bool
  | .band | .bor | .bxor => if sub (pairTy l r) accBit then okW l else .ill
  | .filter | .map | .partition => .unsup

/-- what the checker knows about an arm (`MatchArm::is_covering_type`) -/
inductive ArmKind where
  | value            -- `v1, v2 => ..`: never counted as covering
  | other            -- `=> ..`
  | ty (t : Ty)      -- `x: T => ..`

/-- `MatchArm::is_covering_type` on a non-union type; at run time (`MatchArm::covers`) the same test is
    applied to the scrutinee's run-time type -/
def armCovers : ArmKind → Ty → Bool
  | .value, _ => false
  | .other, _ => true
  | .ty a, t => sub t a

/-- `Match::is_covering_type`: a union is covered member by member -/
def covering (arms : List ArmKind) : Ty → Bool
  | .multi ms => ms.all fun m => arms.any (armCovers · m)
  | t => arms.any (armCovers · t)

/-- what `MatchArm::is_covering_type` looks at -/
def armKinds : List Arm → List ArmKind
  | [] => []
  | .ty _ t _ :: rest => .ty t :: armKinds rest
  | .val _ _ :: rest => .value :: armKinds rest
  | .other _ :: rest => .other :: armKinds rest

/-- a slice bound, when present, has exactly the type int -/
def boundOk : Option Ty → Bool
  | none => true
  | some t => eqv t .int

mutual
def tyOf : TEnv → Expr → Res Ty
  | _, .litBool _ => .ok .bool
  | _, .litInt _ => .ok .int
  | _, .litFloat _ => .ok .float
  | _, .litStr _ => .ok .str
  | _, .litUnit => .ok .void
  | g, .var x => match g.lookup x with
    | some t => okW t
    | none => .ill
  | g, .array es => (tyOfList g es).bind fun ts => okW (.arr (concatL ts))
  | g, .tuple es => if es.length < 2 then .unsup else (tyOfList g es).bind fun ts => okW (.tup ts)
  | g, .pre .not e => (tyOf g e).bind fun t => if sub t accNot then okW t else .ill
  | g, .pre .neg e => (tyOf g e).bind fun t => if sub t accNeg then okW t else .ill
  | g, .and a b => (tyOf g a).bind fun ta => (tyOf g b).bind fun tb =>
      if eqv ta .bool && eqv tb .bool then .ok .bool else .ill
  | g, .or a b => (tyOf g a).bind fun ta => (tyOf g b).bind fun tb =>
      if eqv ta .bool && eqv tb .bool then .ok .bool else .ill
  | g, .bin op a b => (tyOf g a).bind fun ta => (tyOf g b).bind fun tb => binTy op ta tb
  | g, .at a i => (tyOf g a).bind fun ta => (tyOf g i).bind fun ti =>
      if !eqv ti .int then .ill else
      match ta with
      | .arr e => okW e
      | .str => .ok .str
      | .multi _ => .unsup
      | .never => .unsup
      | _ => .ill
  | g, .tacc e n => (tyOf g e).bind fun t =>
      match t with
      | .tup ts => match ts[n]? with
        | some x => okW x
        | none => .ill
      | .multi _ => .unsup
      | .never => .unsup
      | _ => .ill
  | g, .ifElse c t e => (tyOf g c).bind fun tc =>
      if !(eqv tc .bool || eqv tc .never) then .ill else       -- a condition of type `!` never yields a value
      (tyOf g t).bind fun tt =>
      match e with
      | some e => (tyOf g e).bind fun te => okW (concat tt te)
      | none => okW (concat tt .void)
  | g, .block body => (tyOfSeq g body).bind fun (t, _) => okW t
  | g, .ifSet x ty e body els =>
      -- `if x: T = e body else els`: no admissibility test; `x` has the declared type in the body only
      if !wf ty then .unsup else
      (tyOf g e).bind fun _ => (tyOf ((x, ty) :: g) body).bind fun tb =>
      match els with
      | some el => (tyOf g el).bind fun tl => okW (concat tb tl)
      | none => okW (concat tb .void)
  | g, .arrayRepeat v n => (tyOf g v).bind fun tv => (tyOf g n).bind fun tn =>
      -- `[v; n]`: the length's type must match int; `[typeof v]`
      if !sub tn .int then .ill else
      if !eqv tn .int then .unsup else okW (.arr tv)
  | g, .slice a st en sp => (tyOf g a).bind fun ta =>
      -- `a[start:stop:step]`: the operand must be indexable, every present bound an int; the operand's own type
      (tyOfOpt g st).bind fun ts => (tyOfOpt g en).bind fun te => (tyOfOpt g sp).bind fun tp =>
      if !canBeIndexed ta then .ill else
      if !(boundOk ts && boundOk te && boundOk tp) then .ill else
      match ta with
      | .arr _ => okW ta
      | .str => .ok .str
      | _ => .unsup
  | g, .matchE e arms =>
      -- `Match::create_instruction`: the arms must cover the scrutinee's static type; the type is the join of the arms'
      (tyOf g e).bind fun te => (tyOfArms g arms).bind fun tys =>
      if !(covering (armKinds arms) te) then .ill else okW (concatL tys)
  | _, _ => .unsup
/-- the body types of the arms, in order (`x: T => body` types its body with `x : T`; the candidates of a value arm are
    expressions of any type) -/
def tyOfArms : TEnv → List Arm → Res (List Ty)
  | _, [] => .ok []
  | g, .ty x t body :: rest =>
      if !wf t then .unsup else
      (tyOf ((x, t) :: g) body).bind fun tb => (tyOfArms g rest).bind fun ts => .ok (tb :: ts)
  | g, .val cands body :: rest =>
      (tyOfList g cands).bind fun _ => (tyOf g body).bind fun tb => (tyOfArms g rest).bind fun ts => .ok (tb :: ts)
  | g, .other body :: rest =>
      (tyOf g body).bind fun tb => (tyOfArms g rest).bind fun ts => .ok (tb :: ts)
def tyOfOpt : TEnv → Option Expr → Res (Option Ty)
  | _, none => .ok none
  | g, some e => (tyOf g e).bind fun t => .ok (some t)
def tyOfList : TEnv → List Expr → Res (List Ty)
  | _, [] => .ok []
  | g, e :: es => (tyOf g e).bind fun t => (tyOfList g es).bind fun ts => .ok (t :: ts)
/-- a statement list: the type of its last statement (`()` if empty) and the extended environment -/
def tyOfSeq : TEnv → List Expr → Res (Ty × TEnv)
  | g, [] => .ok (.void, g)
  | g, [s] => tyOfStmt g s
  | g, s :: rest => (tyOfStmt g s).bind fun (_, g') => tyOfSeq g' rest
def tyOfStmt : TEnv → Expr → Res (Ty × TEnv)
  | g, .set x e => (tyOf g e).bind fun t => .ok (t, (x, t) :: g)
  | _, .destruct .. => .unsup
  | _, .fndecl .. => .unsup
  | g, e => (tyOf g e).bind fun t => .ok (t, g)
end

/-- a whole program -/
def tyOfProgram (prog : List Expr) : Res Ty := (tyOfSeq [] prog).bind fun (t, _) => .ok t

end Ssl.Check
